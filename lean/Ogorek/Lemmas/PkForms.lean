import Ogorek.Lemmas.PkRun

/-!
  CPython's unpickler on CPython's pickler: the memo invariant on the Python machine (`PMemoInv`), PUT / GET, and what it
  means that a fragment pushes an object (`PPushesG`, `PPushesGN`).
-/
namespace Ogorek

def PKeepsH (st st' : PState) : Prop := st.heap.length ≤ st'.heap.length ∧ PAgreeFrom 0 st.heap st'.heap

theorem PKeepsH.refl (st : PState) : PKeepsH st st := ⟨Nat.le_refl _, AgreeL.refl _ _⟩

theorem PKeepsH.trans {a b c : PState} (h1 : PKeepsH a b) (h2 : PKeepsH b c) : PKeepsH a c :=
  ⟨Nat.le_trans h1.1 h2.1, AgreeL.trans h1.2 h2.2 h1.1⟩

theorem PKeepsH.of_eq {st st' : PState} (e : st'.heap = st.heap) : PKeepsH st st' := by
  unfold PKeepsH; rw [e]; exact ⟨Nat.le_refl _, AgreeL.refl _ _⟩

theorem PKeepsH.of_append {st st' : PState} {t : List PObj} (e : st'.heap = st.heap ++ t) : PKeepsH st st' := by
  unfold PKeepsH; rw [e]; exact ⟨by simp, AgreeL.append _ _ _⟩

theorem PKeepsH.keepsBA {st st' : PState} (h : PKeepsH st st') : KeepsBA st.heap st'.heap := by
  intro i d e
  rw [h.2 i (Nat.zero_le _) (getElem?_lt_of_some e)]; exact e

/-- What the Python machine holds in its memo for something the pickler memoized: a value that is, in the heap `h`, the
    Python value `pyValOf p k` the key stands for (`PHolds.iff_repG`). -/
def PHolds (p : Nat) (h : List PObj) : PKey → PyVal → Prop
  | .str _ s, v => v = .str s
  | .bytes _ s, v => v = .bytes s
  | .bytearray _ s, v => ∃ id, v = .obj id ∧ h[id]? = some (.bytearray s)
  | .gEncode, v => v = .glob (sb "_codecs") (sb "encode")
  | .sLatin1, v => v = .str (sb "latin1")
  | .gBytes, v => v = .glob (pybuiltinModuleE p) (sb "bytes")
  | .gBytearray, v => v = .glob (pybuiltinModuleE p) (sb "bytearray")

def pyValOf (p : Nat) : PKey → PyVal
  | .str _ s => .str s
  | .bytes _ s => .bytes s
  | .bytearray _ s => .bytearray s
  | .gEncode => .glob (sb "_codecs") (sb "encode")
  | .sLatin1 => .str (sb "latin1")
  | .gBytes => .glob (pybuiltinModuleE p) (sb "bytes")
  | .gBytearray => .glob (pybuiltinModuleE p) (sb "bytearray")

theorem PHolds.iff_repG {p n : Nat} {h : List PObj} {k : PKey} {r : PyVal} : PHolds p h k r ↔ PRepG n h r (pyValOf p k) := by
  cases k <;> simp only [PHolds, pyValOf, PRepG]

theorem PHolds.keeps {p : Nat} {h h' : List PObj} (hb : KeepsBA h h') {k : PKey} {v : PyVal} (hh : PHolds p h k v) : PHolds p h' k v := by
  cases k <;> simp only [PHolds] at hh ⊢ <;> try exact hh
  obtain ⟨id, e, hg⟩ := hh
  exact ⟨id, e, hb id _ hg⟩

/-- The memo of the Python machine is as the pickler's: keys `0 … n-1`, and under every index that may be fetched
    again what was memoized there. -/
def PMemoInv (p : Nat) (s : PSt) (st : PState) : Prop :=
  st.memo.length = s.n ∧ s.n ≤ 2 ^ 32 ∧ (∀ k, k ∈ st.memo.map (·.1) → k < s.n) ∧
  (∀ k idx, (k, idx) ∈ s.tab → idx < s.n ∧ ∃ v, st.memo.lookup idx = some v ∧ PHolds p st.heap k v)

section
variable {p : Nat} {s : PSt} {st : PState}

theorem PMemoInv.memo_length (h : PMemoInv p s st) : st.memo.length = s.n := h.1

theorem PMemoInv.n_le (h : PMemoInv p s st) : s.n ≤ 2 ^ 32 := h.2.1

theorem PMemoInv.key_lt (h : PMemoInv p s st) {k : Nat} (hk : k ∈ st.memo.map (·.1)) : k < s.n := h.2.2.1 k hk

theorem PMemoInv.lookup_of_mem (h : PMemoInv p s st) {k : PKey} {idx : Nat} (hm : (k, idx) ∈ s.tab) :
    idx < s.n ∧ ∃ v, st.memo.lookup idx = some v ∧ PHolds p st.heap k v :=
  h.2.2.2 k idx hm

end

theorem PMemoInv.init (p : Nat) (st : PState) (h : st.memo = []) : PMemoInv p ⟨0, []⟩ st := by
  refine ⟨by rw [h]; rfl, Nat.zero_le _, fun k hk => ?_, fun k idx hm => nomatch hm⟩
  rw [h] at hk
  cases hk

theorem PMemoInv.stable {p : Nat} {s : PSt} {st st' : PState} (h : PMemoInv p s st) (hm : st'.memo = st.memo)
    (hb : KeepsBA st.heap st'.heap) : PMemoInv p s st' := by
  refine ⟨by rw [hm]; exact h.memo_length, h.n_le, by rw [hm]; exact fun k => h.key_lt, ?_⟩
  intro k idx hk
  obtain ⟨hlt, v, hl, hh⟩ := h.lookup_of_mem hk
  exact ⟨hlt, v, by rw [hm]; exact hl, hh.keeps hb⟩

/-- `memo[n] = r`: every key present is below `n`, so `pmemoPut` under `n` removes nothing. -/
theorem PMemoInv.put {p : Nat} {s : PSt} {st : PState} (h : PMemoInv p s st) (hn : s.n < 2 ^ 32) (key : Option PKey) (r : PyVal)
    (hr : ∀ k, key = some k → PHolds p st.heap k r) :
    PMemoInv p (s.put key) (pmemoPut st s.n r) := by
  have hmemo : (pmemoPut st s.n r).memo = (s.n, r) :: st.memo := by
    simp only [pmemoPut, List.cons.injEq, true_and]
    exact List.filter_eq_self.mpr fun e he => by simpa using Nat.ne_of_lt (h.key_lt (List.mem_map_of_mem he))
  have hlen : (pmemoPut st s.n r).memo.length = (s.put key).n := by
    rw [hmemo, List.length_cons, h.memo_length]; rfl
  have hle : (s.put key).n ≤ 2 ^ 32 := Nat.succ_le_of_lt hn
  have hkeys : ∀ k, k ∈ (pmemoPut st s.n r).memo.map (·.1) → k < (s.put key).n := by
    intro k hk
    rw [hmemo, List.map_cons, List.mem_cons] at hk
    rcases hk with rfl | hk
    · exact Nat.lt_succ_self _
    · exact Nat.lt_succ_of_lt (h.key_lt hk)
  have hget : ∀ k idx, (k, idx) ∈ (s.put key).tab →
      idx < (s.put key).n ∧ ∃ v, (pmemoPut st s.n r).memo.lookup idx = some v ∧ PHolds p (pmemoPut st s.n r).heap k v := by
    intro k idx hmem
    rcases PSt.mem_put hmem with ⟨hk, rfl⟩ | hm
    · exact ⟨Nat.lt_succ_self _, r, by rw [hmemo]; simp, hr k hk⟩
    · obtain ⟨hlt, v, hl, hh⟩ := h.lookup_of_mem hm
      refine ⟨Nat.lt_succ_of_lt hlt, v, ?_, hh⟩
      rw [hmemo, List.lookup_cons, show (idx == s.n) = false by simpa using Nat.ne_of_lt hlt]
      exact hl
  exact ⟨hlen, hle, hkeys, hget⟩

theorem natDigits_length_le : (k n : Nat) → n < 10 ^ (k + 1) → (natDigits n).length ≤ k + 1
  | 0, n, h => by
    rw [natDigits, dif_pos (by simpa using h)]
    simp
  | k + 1, n, h => by
    rw [natDigits]
    split
    · simp
    · have := natDigits_length_le k (n / 10) (by rw [Nat.div_lt_iff_lt_mul (by decide), ← Nat.pow_succ]; exact h)
      simp only [List.length_append, List.length_cons, List.length_nil]
      omega

/-- An index the widest PUT / GET form can carry is within Python's limit on the digits of an `int()` argument. -/
theorem natDigits_short (n : Nat) (hn : n < 2 ^ 32) : ¬ (natDigits n).length > 4300 := by
  have := natDigits_length_le 9 n (by omega)
  omega

/-- `hl`: MEMOIZE numbers by the size of the memo. -/
theorem pexec_cpPut (p : Nat) {st : PState} {n : Nat} (hn : n < 2 ^ 32) (hl : p ≥ 4 → st.memo.length = n) {v : PyVal} {s : List PyVal}
    (hs : st.stack = v :: s) : pexec (if p ≥ 4 then .memoize else .put (natDigits n)) st = .ok (pmemoPut st n v) := by
  split
  · rename_i h4
    simp [pexec, hs, hl h4]
  · simp [pexec, natDigits_short n hn, parseDigits_natDigits, hs]

section
variable {c : ECfg}

theorem pruns_putS {mz : Option PKey → Bool} (p : Nat) (s s' : PSt) (key : Option PKey) (pb : Bytes) (h : putS mz p s key = some (pb, s')) :
    PRunsP c pb (fun st => PMemoInv p s st ∧ ∃ r rest, st.stack = r :: rest ∧ ∀ k, key = some k → PHolds p st.heap k r)
      (fun st st' => PMemoInv p s' st' ∧ st'.stack = st.stack ∧ st'.metas = st.metas ∧ st'.heap = st.heap) := by
  rcases putS_some h with ⟨hn, rfl, rfl⟩ | ⟨rfl, rfl⟩
  · obtain ⟨k, hp, hk⟩ := parses_cpPut p s.n
    cases hk hn
    refine PRunsP.one hp ?_ (by split <;> rfl)
    rintro st _ ⟨hinv, r, rest, hs, hv⟩
    exact ⟨_, pexec_cpPut p hn (fun _ => hinv.memo_length) hs, rfl, hinv.put hn key r hv, rfl, rfl, rfl⟩
  · exact PRunsP.nil fun st hp => ⟨hp.1, rfl, rfl, rfl⟩

theorem pruns_get (p : Nat) (s : PSt) (k : PKey) (idx : Nat) (hf : s.find k = some idx) :
    PRunsP c (cpGet p idx) (PMemoInv p s)
      (fun st st' => PMemoInv p s st' ∧ (∃ v, st'.stack = v :: st.stack ∧ PHolds p st.heap k v) ∧ st'.metas = st.metas ∧ st'.heap = st.heap) := by
  obtain ⟨key, hp, hkey⟩ := parses_cpGet p idx
  refine PRunsP.one hp ?_
  intro st _ hinv
  obtain ⟨hlt, v, hl, hh⟩ := hinv.lookup_of_mem (PSt.find_mem hf)
  have hlt32 : idx < 2 ^ 32 := by have := hinv.n_le; omega
  refine ⟨ppush st v, ?_, rfl, hinv.stable rfl (KeepsBA.refl _), ⟨v, rfl, hh⟩, rfl, rfl⟩
  rw [hkey hlt32]
  simp [pexec, natDigits_short idx hlt32, parseDigits_natDigits, hl]

/-- The fragment pushes values that are the Python values `xs` (bottom to top), referring only to heap objects it
    allocated itself (bytearrays excepted), leaves the old heap and the metastack alone. -/
def PPushesGN (c : ECfg) (p : Nat) (bs : Bytes) (xs : List PyVal) (s s' : PSt) : Prop :=
  PRunsP c bs (PMemoInv p s) (fun st st' => PMemoInv p s' st' ∧ ∃ rs, st'.stack = rs.reverse ++ st.stack ∧ st'.metas = st.metas ∧
    PRepGList st.heap.length st'.heap rs xs ∧ PKeepsH st st')

def PPushesG (c : ECfg) (p : Nat) (bs : Bytes) (v : PyVal) (s s' : PSt) : Prop :=
  PRunsP c bs (PMemoInv p s) (fun st st' => PMemoInv p s' st' ∧ ∃ r, st'.stack = r :: st.stack ∧ st'.metas = st.metas ∧
    PRepG st.heap.length st'.heap r v ∧ PKeepsH st st')

theorem PPushesG.toN {p : Nat} {bs : Bytes} {v : PyVal} {s s' : PSt} (h : PPushesG c p bs v s s') : PPushesGN c p bs [v] s s' := by
  refine PRunsP.weaken h (fun _ h => h) ?_
  rintro st st' _ _ ⟨hj, r, hs, hm, hr, hk⟩
  exact ⟨hj, [r], by simpa using hs, hm, by simp [PRepGList, hr], hk⟩

theorem PPushesGN.nil (p : Nat) (s : PSt) : PPushesGN c p [] [] s s :=
  PRunsP.nil fun st hj => ⟨hj, [], by simp, rfl, trivial, PKeepsH.refl st⟩

theorem PPushesGN.append {p : Nat} {b1 b2 : Bytes} {xs1 xs2 : List PyVal} {s s1 s2 : PSt}
    (h1 : PPushesGN c p b1 xs1 s s1) (h2 : PPushesGN c p b2 xs2 s1 s2) :
    PPushesGN c p (b1 ++ b2) (xs1 ++ xs2) s s2 := by
  refine PRunsP.weaken (PRunsP.seq h1 h2 (fun _ _ _ _ q => q.1)) (fun _ h => h) ?_
  rintro st st2 _ _ ⟨st1, _, ⟨_, rs1, hs1, hm1, hr1, hk1⟩, ⟨hj2, rs2, hs2, hm2, hr2, hk2⟩⟩
  refine ⟨hj2, rs1 ++ rs2, by simp [hs2, hs1], by rw [hm2, hm1], ?_, hk1.trans hk2⟩
  refine PRepGList.append ?_ ?_
  · exact PRepGList.congr (AgreeL.mono hk2.2 (Nat.zero_le _)) hk2.keepsBA (Nat.le_refl _) rs1 xs1 hr1
  · exact PRepGList.congr (AgreeL.refl _ _) (KeepsBA.refl _) hk1.1 rs2 xs2 hr2

theorem PPushesG.one {p : Nat} {bs : Bytes} {i : Insn} (r : PyVal) (v : PyVal) (s : PSt)
    (hp : Parses bs [i]) (he : ∀ st, pexec i st = .ok (ppush st r)) (hr : ∀ n h, PRepG n h r v)
    (hnf : i.isFrame = false := by rfl) : PPushesG c p bs v s s := by
  refine PRunsP.one hp ?_ hnf
  intro st _ hj
  exact ⟨ppush st r, he st, rfl, hj.stable rfl (KeepsBA.refl _), r, rfl, rfl, hr _ _, PKeepsH.refl _⟩

theorem PPushesG.putS {mz : Option PKey → Bool} {p : Nat} {bs pb : Bytes} {v : PyVal} {s s1 s2 : PSt} {key : Option PKey}
    (h : PPushesG c p bs v s s1) (hput : putS mz p s1 key = some (pb, s2)) (hkey : ∀ k, key = some k → pyValOf p k = v) :
    PPushesG c p (bs ++ pb) v s s2 := by
  refine PRunsP.weaken (PRunsP.seq h (pruns_putS p s1 s2 key pb hput) ?_) (fun _ h => h) ?_
  · intro st st1 _ _ ⟨hj, r, hs, _, hr, _⟩
    exact ⟨hj, r, st.stack, hs, fun k hk => PHolds.iff_repG.mpr (hkey k hk ▸ hr)⟩
  · intro st st2 _ _ ⟨st1, _, ⟨_, r, hs, hm, hr, hk⟩, hj2, hs2, hm2, hh2⟩
    exact ⟨hj2, r, by rw [hs2, hs], by rw [hm2, hm], by rw [hh2]; exact hr, hk.trans (PKeepsH.of_eq hh2)⟩

theorem ppushesG_get (p : Nat) {s : PSt} {k : PKey} {idx : Nat} (hf : s.find k = some idx) :
    PPushesG c p (cpGet p idx) (pyValOf p k) s s := by
  refine PRunsP.weaken (pruns_get p s k idx hf) (fun _ h => h) ?_
  rintro st st' _ _ ⟨hj, ⟨v, hs, hh⟩, hm, hhp⟩
  exact ⟨hj, v, hs, hm, by rw [hhp]; exact PHolds.iff_repG.mp hh, PKeepsH.of_eq hhp⟩

end

end Ogorek
