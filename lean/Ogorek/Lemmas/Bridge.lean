import Ogorek.Lemmas.RoundTrip
import Ogorek.Lemmas.HeapKeys
import Ogorek.WF

/-!
  From a decode result to the hypotheses of the round-trip theorem (C05): a value represented by what
  the decoder returned, in a heap whose containers satisfy the decoder's key invariant, is `canon`.
-/
namespace Ogorek

mutual
/-- What `canon` needs that no decoder invariant provides: payload sizes within the 4-byte length
    forms, no Call of the bytes / bytearray forms the decoder itself interprets (excluded by C05's
    statement), and — with builtin maps — no `*big.Int` key (a pointer: the re-decoded one is another key). -/
def shapeOK (cfg : Cfg) : GoVal → Bool
  | .str s | .bytestr s => decide (s.length < 2 ^ 32)
  | .bytes s | .bytearray s => decide (s.length < 2 ^ 31)
  | .cls m n => decide (m.length < 2 ^ 32) && decide (n.length < 2 ^ 32)
  | .list xs | .tuple xs => shapeOKList cfg xs
  | .call m n args => decide (m.length < 2 ^ 32) && decide (n.length < 2 ^ 32) && !reservedCall m n && shapeOKList cfg args
  | .ref p => shapeOK cfg p
  | .map kvs | .dict kvs => shapeOKPairs cfg kvs
  | _ => true
def shapeOKList (cfg : Cfg) : List GoVal → Bool
  | [] => true
  | x :: xs => shapeOK cfg x && shapeOKList cfg xs
def shapeOKPairs (cfg : Cfg) : List (GoVal × GoVal) → Bool
  | [] => true
  | (k, v) :: r => (cfg.pyDict || mapKeyPlain cfg.su true k) && shapeOK cfg k && shapeOK cfg v && shapeOKPairs cfg r
end

theorem freshOverB_of_pairwise {eqf : GoVal → GoVal → Bool} : ∀ (ks old : List GoVal),
    (old ++ ks).Pairwise (fun a b => eqf b a = false) → freshOverB eqf old ks = true
  | [], _, _ => rfl
  | k :: ks, old, h => by
    simp only [freshOverB, Bool.and_eq_true, List.all_eq_true, Bool.not_eq_true']
    refine ⟨?_, ?_⟩
    · intro o ho
      rw [List.pairwise_append] at h
      exact h.2.2 o ho k (by simp)
    · apply freshOverB_of_pairwise ks (old ++ [k])
      simpa [List.append_assoc] using h

theorem wfResPairs_keys {c : Cfg} {u : Bool} : (kvs : Entries) → wfResPairs c u kvs = true → ∀ kv ∈ kvs, wfRes c u kv.1 = true
  | [], _ => by simp
  | (k, v) :: kvs, h => by
    have h := Bool.and_eq_true_iff.mp h
    intro kv hkv
    rcases List.mem_cons.mp hkv with rfl | hkv
    · exact (Bool.and_eq_true_iff.mp h.1).1
    · exact wfResPairs_keys kvs h.2 kv hkv

theorem shapeOKPairs_plain {cfg : Cfg} : (kvs : Entries) → cfg.pyDict = false → shapeOKPairs cfg kvs = true →
    ∀ kv ∈ kvs, mapKeyPlain cfg.su true kv.1 = true
  | [], _, _ => by simp
  | (k, v) :: kvs, hpd, h => by
    dsimp only [shapeOKPairs] at h
    simp only [Bool.and_eq_true, hpd, Bool.false_or] at h
    intro kv hkv
    rcases List.mem_cons.mp hkv with rfl | hkv
    · exact h.1.1.1
    · exact shapeOKPairs_plain kvs hpd h.2 kv hkv

section bridge
variable {mc : MCfg}

/-- The side condition on `ρ` of the `Rep` lemmas, for the decoder without hook: `ρ = .ref`, Refs allowed in keys. -/
theorem refRho : (true = true → ∀ p : GoVal, GoVal.ref p = .ref p) := fun _ _ => rfl

mutual
theorem keyLike_of_rep {h : List HObj} {r : GoVal} : (k : GoVal) → Rep mc GoVal.ref h r k → hashable r = true →
    wfRes mc.cfg false k = true → keyLike mc.cfg.su true k = true
  -- `Rep`, `hashable`, `wfRes` and `keyLike` compute on a constructor: every case is stated at the reduced types
  | .none | .bool _ | .int _ | .float _ | .str _ | .bytes _ | .cls _ _ | .big _ _ => fun _ _ _ => rfl
  | .bytestr _ => fun _ _ hw => hw
  | .tuple xs => fun ⟨_, he, hl⟩ hh hw => keyLikeList_of_rep xs hl (Option.isSome_map.symm.trans (he ▸ hh)) hw
  | .call m n args => fun ⟨_, he, hl⟩ hh hw => keyLikeList_of_rep args hl (Option.isSome_map.symm.trans (he ▸ hh)) hw
  | .ref p => fun ⟨_, he, _, hp⟩ hh hw => keyLike_of_rep p hp (Option.isSome_map.symm.trans (he ▸ hh)) hw
  | .list _ => fun ⟨_, he, _⟩ hh _ => nomatch he ▸ hh
  | .bytearray _ => fun he hh _ => nomatch he ▸ hh
  | .map _ | .dict _ => fun ⟨_, _, he, _⟩ hh _ => nomatch he ▸ hh
  | .nil => fun _ _ hw => nomatch hw
  | .uint _ | .complex _ _ | .user _ | .mark | .href _ | .cycle => fun hr _ _ => nomatch hr
theorem keyLikeList_of_rep {h : List HObj} : {rs : List GoVal} → (xs : List GoVal) → RepList mc GoVal.ref h rs xs →
    (hashTreeList rs).isSome = true → wfResList mc.cfg false xs = true → keyLikeList mc.cfg.su true xs = true
  | [], [], _, _, _ => rfl
  | [], _ :: _, hr, _, _ => nomatch hr
  | _ :: _, [], hr, _, _ => nomatch hr
  | r :: rs, x :: xs, hr, hh, hw => by
    have hw := Bool.and_eq_true_iff.mp hw
    have h1 : hashable r = true ∧ (hashTreeList rs).isSome = true := by
      simp only [hashTreeList] at hh
      cases ht : hashTree r with
      | none => rw [ht] at hh; simp at hh
      | some t =>
        cases hts : hashTreeList rs with
        | none => rw [ht, hts] at hh; simp at hh
        | some ts => simp [hashable, ht]
    exact Bool.and_eq_true_iff.mpr ⟨keyLike_of_rep x hr.1 h1.1 hw.1, keyLikeList_of_rep xs hr.2 h1.2 hw.2⟩
end

theorem RepPairs.mem_keys {h : List HObj} : {es kvs : Entries} → RepPairs mc GoVal.ref h es kvs →
    ∀ kv ∈ kvs, ∃ e ∈ es, Rep mc GoVal.ref h e.1 kv.1
  | [], [], _ => by simp
  | [], _ :: _, hr => nomatch hr
  | _ :: _, [], hr => nomatch hr
  | (rk, rv) :: es, (k, v) :: kvs, hr => by
    intro kv hkv
    rcases List.mem_cons.mp hkv with rfl | hkv
    · exact ⟨(rk, rv), by simp, hr.1⟩
    · obtain ⟨e, he, hre⟩ := RepPairs.mem_keys hr.2.2 kv hkv
      exact ⟨e, by simp [he], hre⟩

theorem pairwise_keys_of_rep {h : List HObj} : {es kvs : Entries} → RepPairs mc GoVal.ref h es kvs →
    (∀ kv ∈ kvs, keyLike mc.cfg.su true kv.1 = true) →
    es.Pairwise (fun a b => goEqual b.1 a.1 = false) → (kvs.map (·.1)).Pairwise (fun a b => goEqual b a = false)
  | [], [], _, _, _ => by simp
  | [], _ :: _, hr, _, _ => nomatch hr
  | _ :: _, [], hr, _, _ => nomatch hr
  | (rk, rv) :: es, (k, v) :: kvs, hr, hkl, hp => by
    rw [List.pairwise_cons] at hp
    simp only [List.map_cons, List.pairwise_cons]
    refine ⟨?_, pairwise_keys_of_rep hr.2.2 (fun kv hkv => hkl kv (by simp [hkv])) hp.2⟩
    intro k' hk'
    obtain ⟨kv', hkv', rfl⟩ := List.mem_map.mp hk'
    obtain ⟨e, he, hre⟩ := RepPairs.mem_keys hr.2.2 kv' hkv'
    rw [← Rep.goEqual_eq refRho hre hr.1 (hkl kv' (by simp [hkv'])) (hkl (k, v) (by simp))]
    exact hp.1 e he

mutual
theorem canon_of_rep {h : List HObj} (hk : ∀ o ∈ h, EntriesOK o.kind o.kvs) {r : GoVal} :
    (v : GoVal) → Rep mc GoVal.ref h r v → wfRes mc.cfg false v = true → shapeOK mc.cfg v = true → canon mc.cfg true v = true
  | .none | .bool _ | .float _ | .big _ _ => fun _ _ _ => rfl
  | .nil => fun _ hw _ => nomatch hw
  | .int i => fun _ hw _ => hw
  | .str s | .bytestr s | .bytes s | .bytearray s => fun _ _ hs => hs
  | .cls m n => fun _ _ hs => hs
  | .list xs | .tuple xs => fun ⟨_, _, hl⟩ hw hs => canonList_of_rep hk xs hl hw hs
  | .call m n args => fun ⟨_, _, hl⟩ hw hs =>
    have hs := Bool.and_eq_true_iff.mp hs
    Bool.and_eq_true_iff.mpr ⟨hs.1, canonList_of_rep hk args hl hw hs.2⟩
  | .ref p => fun ⟨_, _, _, hp⟩ hw hs => canon_of_rep hk p hp hw hs
  | .map kvs | .dict kvs => fun ⟨_, _, _, hg, hp⟩ hw hs =>
    have hw := (Bool.and_eq_true_iff.mp hw).2
    Bool.and_eq_true_iff.mpr ⟨canonPairs_of_rep hk kvs hp hw hs, keysOK_of_rep hk kvs hg hp hw hs⟩
  | .uint _ | .complex _ _ | .user _ | .mark | .href _ | .cycle => fun hr _ _ => nomatch hr
theorem canonList_of_rep {h : List HObj} (hk : ∀ o ∈ h, EntriesOK o.kind o.kvs) : {rs : List GoVal} → (xs : List GoVal) →
    RepList mc GoVal.ref h rs xs → wfResList mc.cfg false xs = true → shapeOKList mc.cfg xs = true → canonList mc.cfg true xs = true
  | [], [], _, _, _ => rfl
  | [], _ :: _, hr, _, _ => nomatch hr
  | _ :: _, [], hr, _, _ => nomatch hr
  | r :: rs, x :: xs, hr, hw, hs =>
    have hw := Bool.and_eq_true_iff.mp hw
    have hs := Bool.and_eq_true_iff.mp hs
    Bool.and_eq_true_iff.mpr ⟨canon_of_rep hk x hr.1 hw.1 hs.1, canonList_of_rep hk xs hr.2 hw.2 hs.2⟩
theorem canonPairs_of_rep {h : List HObj} (hk : ∀ o ∈ h, EntriesOK o.kind o.kvs) : {es : Entries} → (kvs : Entries) →
    RepPairs mc GoVal.ref h es kvs → wfResPairs mc.cfg false kvs = true → shapeOKPairs mc.cfg kvs = true → canonPairs mc.cfg true kvs = true
  | [], [], _, _, _ => rfl
  | [], _ :: _, hr, _, _ => nomatch hr
  | _ :: _, [], hr, _, _ => nomatch hr
  | (rk, rv) :: es, (k, v) :: kvs, hr, hw, hs => by
    dsimp only [wfResPairs, shapeOKPairs, canonPairs] at hw hs ⊢
    simp only [Bool.and_eq_true] at hw hs ⊢
    exact ⟨⟨canon_of_rep hk k hr.1 hw.1.1 hs.1.1.2, canon_of_rep hk v hr.2.1 hw.1.2 hs.1.2⟩,
      canonPairs_of_rep hk kvs hr.2.2 hw.2 hs.2⟩
theorem keysOK_of_rep {h : List HObj} (hk : ∀ o ∈ h, EntriesOK o.kind o.kvs) {id : Nat} {es : Entries} (kvs : Entries)
    (hg : h[id]? = some { kind := dictKind mc.cfg, kvs := es }) (hp : RepPairs mc GoVal.ref h es kvs)
    (hw : wfResPairs mc.cfg false kvs = true) (hs : shapeOKPairs mc.cfg kvs = true) : keysOK mc.cfg true kvs = true := by
  have heo := hk _ (List.mem_of_getElem? hg)
  simp only at heo
  have hwk : ∀ kv ∈ kvs, wfRes mc.cfg false kv.1 = true := wfResPairs_keys kvs hw
  unfold keysOK
  unfold dictKind at heo
  by_cases hpd : mc.cfg.pyDict = true
  · simp only [hpd, if_true, EntriesOK] at heo ⊢
    have hkl : ∀ kv ∈ kvs, keyLike mc.cfg.su true kv.1 = true := by
      intro kv hkv
      obtain ⟨e, he, hre⟩ := RepPairs.mem_keys hp kv hkv
      exact keyLike_of_rep kv.1 hre (heo.1 e he) (hwk kv hkv)
    simp only [Bool.and_eq_true, List.all_eq_true]
    refine ⟨?_, freshOverB_of_pairwise _ [] (by simpa using pairwise_keys_of_rep hp hkl heo.2)⟩
    intro kv hkv
    obtain ⟨e, he, hre⟩ := RepPairs.mem_keys hp kv hkv
    exact ⟨hkl kv hkv, by rw [← Rep.hashable_eq refRho hre (hkl kv hkv)]; exact heo.1 e he⟩
  · have hpd' : mc.cfg.pyDict = false := by simpa using hpd
    simp only [hpd', Bool.false_eq_true, if_false, EntriesOK] at heo ⊢
    have hpl : ∀ kv ∈ kvs, mapKeyPlain mc.cfg.su true kv.1 = true := shapeOKPairs_plain kvs hpd' hs
    have heq : es.map (·.1) = kvs.map (·.1) :=
      RepList.eq_of_plain refRho hp.keys (fun k hk' => by
        obtain ⟨kv, hkv, rfl⟩ := List.mem_map.mp hk'; exact hpl kv hkv)
    simp only [Bool.and_eq_true, List.all_eq_true]
    refine ⟨hpl, freshOverB_of_pairwise _ [] ?_⟩
    rw [List.nil_append, ← heq]
    exact List.Pairwise.map _ (fun a b hab => hab) heo.2
end

end bridge

end Ogorek
