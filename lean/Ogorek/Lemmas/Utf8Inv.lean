import Ogorek.Utf8

/-!
  `utf8.DecodeRune` in full detail (which bytes, which value) and `encodeRune ∘ decodeRune = id`
  on every well-formed sequence.
-/
namespace Ogorek

/-- The exact shape of `decodeRune (b0 :: rest) = (r, w)`. -/
inductive RuneExact (b0 : UInt8) (rest : Bytes) (r w : Nat) : Prop where
  | ascii (h : b0.toNat < 0x80) (hr : r = b0.toNat) (hw : w = 1)
  | invalid (hr : r = runeError) (hw : w = 1)
  | two (b1 : UInt8) (rest' : Bytes) (hrest : rest = b1 :: rest')
      (h0 : 0xC2 ≤ b0.toNat ∧ b0.toNat < 0xE0) (h1 : 0x80 ≤ b1.toNat ∧ b1.toNat ≤ 0xBF)
      (hr : r = b0.toNat % 32 * 64 + b1.toNat % 64) (hw : w = 2)
  | three (b1 b2 : UInt8) (rest' : Bytes) (hrest : rest = b1 :: b2 :: rest')
      (h0 : 0xE0 ≤ b0.toNat ∧ b0.toNat < 0xF0)
      (h1 : 0x80 ≤ b1.toNat ∧ b1.toNat ≤ 0xBF ∧ (b0.toNat = 0xE0 → 0xA0 ≤ b1.toNat) ∧ (b0.toNat = 0xED → b1.toNat ≤ 0x9F))
      (h2 : 0x80 ≤ b2.toNat ∧ b2.toNat ≤ 0xBF)
      (hr : r = b0.toNat % 16 * 4096 + b1.toNat % 64 * 64 + b2.toNat % 64) (hw : w = 3)
  | four (b1 b2 b3 : UInt8) (rest' : Bytes) (hrest : rest = b1 :: b2 :: b3 :: rest')
      (h0 : 0xF0 ≤ b0.toNat ∧ b0.toNat < 0xF5)
      (h1 : 0x80 ≤ b1.toNat ∧ b1.toNat ≤ 0xBF ∧ (b0.toNat = 0xF0 → 0x90 ≤ b1.toNat) ∧ (b0.toNat = 0xF4 → b1.toNat ≤ 0x8F))
      (h2 : 0x80 ≤ b2.toNat ∧ b2.toNat ≤ 0xBF) (h3 : 0x80 ≤ b3.toNat ∧ b3.toNat ≤ 0xBF)
      (hr : r = b0.toNat % 8 * 262144 + b1.toNat % 64 * 4096 + b2.toNat % 64 * 64 + b3.toNat % 64) (hw : w = 4)

theorem isCont_iff {b : UInt8} (h : isCont b = true) : 0x80 ≤ b.toNat ∧ b.toNat ≤ 0xBF := by
  unfold isCont at h
  simp only [Bool.and_eq_true, decide_eq_true_eq, UInt8.le_iff_toNat_le] at h
  simpa using h

theorem u8_lt {a : UInt8} {n : UInt8} : a < n ↔ a.toNat < n.toNat := UInt8.lt_iff_toNat_lt
theorem u8_le {a : UInt8} {n : UInt8} : a ≤ n ↔ a.toNat ≤ n.toNat := UInt8.le_iff_toNat_le
theorem u8_not_lt {a n : UInt8} (h : ¬ a < n) : n.toNat ≤ a.toNat := Nat.not_lt.mp (mt u8_lt.mpr h)

theorem u8_eq_of_toNat {a : UInt8} {n : Nat} (hn : n < 256) (h : a.toNat = n) : a = UInt8.ofNat n := by
  apply UInt8.toNat_inj.mp
  simp [UInt8.toNat_ofNat', h, Nat.mod_eq_of_lt hn]

/-- `lo ..` after the lead `k1` excludes the overlong forms, `.. hi` after the lead `k2` the surrogates and what lies above
    U+10FFFF. -/
theorem second_byte_range {b0 b1 k1 k2 lo hi : UInt8} (h1 : 0x80 ≤ lo.toNat) (h2 : hi.toNat ≤ 0xBF)
    (hlo : (if b0 = k1 then lo else 0x80) ≤ b1) (hhi : b1 ≤ (if b0 = k2 then hi else 0xBF)) :
    0x80 ≤ b1.toNat ∧ b1.toNat ≤ 0xBF ∧ (b0.toNat = k1.toNat → lo.toNat ≤ b1.toNat) ∧ (b0.toNat = k2.toNat → b1.toNat ≤ hi.toNat) := by
  have hl : 0x80 ≤ b1.toNat ∧ (b0 = k1 → lo.toNat ≤ b1.toNat) := by
    split at hlo
    · exact ⟨Nat.le_trans h1 (u8_le.mp hlo), fun _ => u8_le.mp hlo⟩
    · exact ⟨u8_le.mp hlo, fun h => absurd h ‹_›⟩
  have hh : b1.toNat ≤ 0xBF ∧ (b0 = k2 → b1.toNat ≤ hi.toNat) := by
    split at hhi
    · exact ⟨Nat.le_trans (u8_le.mp hhi) h2, fun _ => u8_le.mp hhi⟩
    · exact ⟨u8_le.mp hhi, fun h => absurd h ‹_›⟩
  exact ⟨hl.1, hh.1, fun h => hl.2 (UInt8.toNat_inj.mp h), fun h => hh.2 (UInt8.toNat_inj.mp h)⟩

theorem RuneExact.ite {b0 : UInt8} {rest : Bytes} {c : Prop} [Decidable c] {p q : Nat × Nat}
    (hp : c → RuneExact b0 rest p.1 p.2) (hq : ¬ c → RuneExact b0 rest q.1 q.2) :
    RuneExact b0 rest (if c then p else q).1 (if c then p else q).2 := by
  split
  · exact hp ‹_›
  · exact hq ‹_›

theorem decodeRune_exact (b0 : UInt8) (rest : Bytes) :
    RuneExact b0 rest (decodeRune (b0 :: rest)).1 (decodeRune (b0 :: rest)).2 := by
  have inv : RuneExact b0 rest (runeError, 1).1 (runeError, 1).2 := .invalid rfl rfl
  unfold decodeRune
  -- one test of the cascade at a time; every way out but the four listed is `(runeError, 1)`
  refine .ite (fun h => .ascii (u8_lt.mp h) rfl rfl) fun _ => .ite (fun _ => inv) fun h2 => ?_
  have n2 : 0xC2 ≤ b0.toNat := u8_not_lt h2
  refine .ite (fun h3 => ?_) fun h3 => .ite (fun h4 => ?_) fun h4 => .ite (fun h5 => ?_) fun _ => inv
  · cases rest with
    | nil => exact inv
    | cons b1 rest =>
      exact .ite (fun hc => .two b1 rest rfl ⟨n2, u8_lt.mp h3⟩ (isCont_iff hc) rfl rfl) fun _ => .invalid rfl rfl
  · rcases rest with _ | ⟨b1, _ | ⟨b2, rest⟩⟩
    · exact inv
    · exact inv
    · refine .ite (fun hc => ?_) fun _ => .invalid rfl rfl
      simp only [Bool.and_eq_true, decide_eq_true_eq] at hc
      exact .three b1 b2 rest rfl ⟨u8_not_lt h3, u8_lt.mp h4⟩
        (second_byte_range (by decide) (by decide) hc.1.1 hc.1.2) (isCont_iff hc.2) rfl rfl
  · rcases rest with _ | ⟨b1, _ | ⟨b2, _ | ⟨b3, rest⟩⟩⟩
    · exact inv
    · exact inv
    · exact inv
    · refine .ite (fun hc => ?_) fun _ => .invalid rfl rfl
      simp only [Bool.and_eq_true, decide_eq_true_eq] at hc
      exact .four b1 b2 b3 rest rfl ⟨u8_not_lt h4, u8_lt.mp h5⟩
        (second_byte_range (by decide) (by decide) hc.1.1.1 hc.1.1.2) (isCont_iff hc.1.2) (isCont_iff hc.2) rfl rfl

theorem ofNat_toNat_u8 (b : UInt8) : UInt8.ofNat b.toNat = b := by simp

theorem tag_add_mod {k m n : Nat} (hk : k % m = 0) (h : k ≤ n ∧ n < k + m) : k + n % m = n := by
  obtain ⟨d, rfl⟩ := Nat.exists_eq_add_of_le h.1
  rw [Nat.add_mod, hk, Nat.zero_add, Nat.mod_mod, Nat.mod_eq_of_lt (by omega)]

theorem cont_payload {n : Nat} (h : 0x80 ≤ n ∧ n ≤ 0xBF) : 0x80 + n % 64 = n ∧ n % 64 < 64 :=
  ⟨tag_add_mod rfl ⟨h.1, Nat.lt_succ_of_le h.2⟩, Nat.mod_lt _ (by decide)⟩

theorem validRune_iff {r : Nat} : validRune r = true ↔ r < 0xD800 ∨ 0xE000 ≤ r ∧ r ≤ 0x10FFFF := by
  simp [validRune]

theorem digits64 {q x n : Nat} (hx : x < 64) (hn : n = q * 64 + x) : n / 64 = q ∧ n % 64 = x := by
  subst hn
  rw [Nat.mul_comm, Nat.mul_add_div (by decide), Nat.mul_add_mod, Nat.div_eq_of_lt hx, Nat.mod_eq_of_lt hx]
  exact ⟨rfl, rfl⟩

theorem encodeRune_of_exact {b0 : UInt8} {rest : Bytes} {r w : Nat} (h : RuneExact b0 rest r w)
    (hv : ¬ (r = runeError ∧ w = 1)) : encodeRune r = (b0 :: rest).take w ∧ validRune r = true := by
  -- In each multi-byte case the payloads get names, so that `r` is a linear expression in them and
  -- every byte is tag + payload; `omega` places `r` in its range, `digits64` reads off its base-64 digits
  -- (`omega` on the quotients and remainders themselves is very slow).
  cases h with
  | ascii h hr hw =>
    subst hr hw
    exact ⟨by simp [encodeRune, h], validRune_iff.mpr (.inl (Nat.lt_trans h (by decide)))⟩
  | invalid hr hw => exact absurd ⟨hr, hw⟩ hv
  | two b1 rest' hrest h0 h1 hr hw =>
    subst hrest hw
    clear hv
    have e0 := tag_add_mod (m := 32) rfl ⟨Nat.le_trans (by decide) h0.1, h0.2⟩
    have ⟨e1, hx⟩ := cont_payload h1
    generalize b0.toNat % 32 = a at *
    generalize b1.toNat % 64 = x at *
    have : ¬ r < 0x80 ∧ r < 0x800 := by omega
    have d := digits64 hx hr
    exact ⟨by simp [encodeRune, this, d, e0, e1], validRune_iff.mpr (.inl (Nat.lt_trans this.2 (by decide)))⟩
  | three b1 b2 rest' hrest h0 h1 h2 hr hw =>
    subst hrest hw
    clear hv
    have e0 := tag_add_mod (m := 16) rfl h0
    have ⟨e1, hx⟩ := cont_payload ⟨h1.1, h1.2.1⟩
    have ⟨e2, hy⟩ := cont_payload h2
    generalize b0.toNat % 16 = a at *
    generalize b1.toNat % 64 = x at *
    generalize b2.toNat % 64 = y at *
    have : ¬ r < 0x800 ∧ r < 0x10000 ∧ (r < 0xD800 ∨ 0xE000 ≤ r ∧ r ≤ 0x10FFFF) := by omega
    have d1 := digits64 (n := r) (q := a * 64 + x) hy (by simp only [hr, Nat.add_mul, Nat.mul_assoc, Nat.reduceMul])
    have d2 := digits64 hx d1.1
    have d3 : r / 4096 = a := (Nat.div_div_eq_div_mul r 64 64).symm.trans d2.1
    have c1 : ¬ r < 0x80 := fun h => this.1 (Nat.lt_trans h (by decide))
    have cv := validRune_iff.mpr this.2.2
    exact ⟨by simp [encodeRune, this, c1, cv, d1.2, d2.2, d3, e0, e1, e2], cv⟩
  | four b1 b2 b3 rest' hrest h0 h1 h2 h3 hr hw =>
    subst hrest hw
    clear hv
    have e0 := tag_add_mod (m := 8) rfl ⟨h0.1, Nat.lt_of_lt_of_le h0.2 (by decide)⟩
    have ⟨e1, hx⟩ := cont_payload ⟨h1.1, h1.2.1⟩
    have ⟨e2, hy⟩ := cont_payload h2
    have ⟨e3, hz⟩ := cont_payload h3
    generalize b0.toNat % 8 = a at *
    generalize b1.toNat % 64 = x at *
    generalize b2.toNat % 64 = y at *
    generalize b3.toNat % 64 = z at *
    have : 0x10000 ≤ r ∧ r ≤ 0x10FFFF := by omega
    have d1 := digits64 (n := r) (q := (a * 64 + x) * 64 + y) hz (by simp only [hr, Nat.add_mul, Nat.mul_assoc, Nat.reduceMul])
    have d2 := digits64 hy d1.1
    have d3 := digits64 hx d2.1
    have d4 : r / 4096 % 64 = x := (Nat.div_div_eq_div_mul r 64 64) ▸ d3.2
    have d5 : r / 262144 = a :=
      ((Nat.div_div_eq_div_mul r 4096 64).symm.trans (congrArg (· / 64) (Nat.div_div_eq_div_mul r 64 64).symm)).trans d3.1
    have c3 : ¬ r < 0x10000 := Nat.not_lt.mpr this.1
    have c2 : ¬ r < 0x800 := fun h => c3 (Nat.lt_trans h (by decide))
    have c1 : ¬ r < 0x80 := fun h => c3 (Nat.lt_trans h (by decide))
    have cv := validRune_iff.mpr (.inr ⟨Nat.le_trans (by decide) this.1, this.2⟩)
    exact ⟨by simp [encodeRune, c1, c2, c3, cv, d1.2, d2.2, d4, d5, e0, e1, e2, e3], cv⟩

theorem RuneExact.pos {b0 : UInt8} {rest : Bytes} {r w : Nat} (h : RuneExact b0 rest r w) : 0 < w := by
  cases h <;> (rename_i hw; subst hw; decide)

theorem decodeRune_cons_exact (b0 : UInt8) (rest : Bytes) :
    ∃ r w, decodeRune (b0 :: rest) = (r, w + 1) ∧ RuneExact b0 rest r (w + 1) := by
  have hs := decodeRune_exact b0 rest
  obtain ⟨w, hw⟩ := Nat.exists_eq_succ_of_ne_zero (Nat.ne_of_gt hs.pos)
  rw [hw] at hs
  exact ⟨_, w, Prod.ext rfl hw, hs⟩

theorem RuneExact.width_le {b0 : UInt8} {rest : Bytes} {r w : Nat} (h : RuneExact b0 rest r w) : w ≤ (b0 :: rest).length := by
  cases h with
  | ascii _ _ hw => subst hw; simp
  | invalid _ hw => subst hw; simp
  | two _ _ hrest _ _ _ hw => subst hw; subst hrest; simp
  | three _ _ _ hrest _ _ _ _ hw => subst hw; subst hrest; simp
  | four _ _ _ _ hrest _ _ _ _ _ hw => subst hw; subst hrest; simp

end Ogorek
