import Ogorek.Lemmas.CPickleDict

/-!
  Decoding what CPython's pickler writes (C02): the hypothesis on the object (`pkOK`), and the induction over a
  tree-shaped object (`pk_val`).
-/
namespace Ogorek

mutual
/-- What the theorem asks of the object: the keys of every dict are acceptable to the decoder's table and
    pairwise different for it (`keysOK`), a bytearray is below 4 GiB, and at protocol 0 the text
    hypothesis for every float in it. -/
def pkOK (cfg : Cfg) (p : Nat) : PyObj → Prop
  | .none => True
  | .bool _ => True
  | .int _ => True
  | .float f => p ≥ 1 ∨ PyFloatTextOK f
  | .str _ => True
  | .bytes _ => True
  | .bytearray s => s.length < 2 ^ 32
  | .tuple xs => pkOKList cfg p xs
  | .list xs => pkOKList cfg p xs
  | .dict kvs => pkOKPairs cfg p kvs ∧ keysOK cfg false (goOfPairs kvs) = true
def pkOKList (cfg : Cfg) (p : Nat) : List PyObj → Prop
  | [] => True
  | x :: xs => pkOK cfg p x ∧ pkOKList cfg p xs
def pkOKPairs (cfg : Cfg) (p : Nat) : List (PyObj × PyObj) → Prop
  | [] => True
  | (k, v) :: r => pkOK cfg p k ∧ pkOK cfg p v ∧ pkOKPairs cfg p r
end

section
variable {mc : MCfg} {hook : Hook} {c : ECfg} {σ : Type} {I : σ → DState → Prop}

theorem PushesG.const (hI : MemoOnly I) (s : σ) {bs : Bytes} {i : Insn} {r : GoVal} {v : PyObj} (hp : Parses bs [i])
    (he : ∀ pos st, exec mc hook i pos st = .ok (push st r)) (hr : ∀ n hp, RepG mc.cfg n hp r v) : PushesG mc hook c I bs v s s :=
  (PushesV.one hI s hp he).toG hr

theorem pushesG_none (hI : MemoOnly I) (s : σ) : PushesG mc hook c I [78] .none s s :=
  PushesG.const hI s (parses_op 78 .pushNone rfl parseArg_78) (fun _ _ => rfl) (fun _ _ => rfl)

theorem pushesG_bool (hI : MemoOnly I) (s : σ) (b : Bool) : PushesG mc hook c I (encodeBool c b).chunks.flatten (.bool b) s s :=
  PushesG.const hI s (parses_bool' c b) (fun _ _ => rfl) (fun _ _ => rfl)

theorem pushesG_big (hI : MemoOnly I) (s : σ) {bs : Bytes} {i : Int} (hf : fits32 i = false) (hp : Parses bs [.pushBig i]) :
    PushesG mc hook c I bs (.int i) s s := by
  refine RunsP.one hp fun _ st _ hj => ?_
  have hrep : RepG mc.cfg st.heap.length st.heap (.big st.nbig i) (.int i) := by
    simp only [RepG, hf, Bool.false_eq_true, if_false]
    exact ⟨_, rfl⟩
  exact ⟨push { st with nbig := st.nbig + 1 } (.big st.nbig i), rfl, rfl, hI s st _ rfl hj, _, rfl, hrep, KeepsH.refl st⟩

theorem pushesG_int (hI : MemoOnly I) (s : σ) (p : Nat) (i : Int) (b : Bytes) (h : cpInt p i = some b) :
    PushesG mc hook (ecfg p) I b (.int i) s s := by
  have hp := parses_cpInt p i b h
  by_cases hf : fits32 i = true
  · rw [if_pos hf] at hp
    exact PushesG.const hI s hp (fun _ _ => rfl) (fun _ _ => by simp [RepG, hf])
  · rw [if_neg hf] at hp
    exact pushesG_big hI s (by simpa using hf) hp

theorem pushesG_float (hI : MemoOnly I) (s : σ) (p : Nat) (f : F64) (hok : p ≥ 1 ∨ PyFloatTextOK f) :
    PushesG mc hook c I (cpFloat p f) (.float f) s s :=
  PushesG.const hI s (parses_cpFloat p f hok) (fun _ _ => rfl) (fun _ _ => rfl)

theorem pushesV_str (hI : MemoOnly I) (s0 : σ) (p : Nat) (s b : Bytes) (h : cpStr p s = some b) :
    PushesV mc hook c I b (.str s) s0 s0 :=
  PushesV.one hI s0 (parses_cpStr p s b h) (fun _ _ => rfl)

theorem pushesG_bytes (hI : MemoOnly I) (s0 : σ) (p : Nat) (s b : Bytes) (h : cpBytes p s = some b) :
    PushesG mc hook c I b (.bytes s) s0 s0 :=
  PushesG.const hI s0 (parses_cpBytes p s b h) (fun _ _ => rfl) (fun _ _ => rfl)

theorem pushesG_bytearray (hI : MemoOnly I) (s0 : σ) (p : Nat) (s b : Bytes) (hl : s.length < 2 ^ 32) (h : cpBytearray p s = some b) :
    PushesG mc hook c I b (.bytearray s) s0 s0 :=
  PushesG.const hI s0 (parses_cpBytearray p s b hl h) (fun _ _ => rfl) (fun _ _ => rfl)

end

section
variable {mc : MCfg} {hook : Hook} {c : ECfg} {σ : Type} {I : σ → DState → Prop}

theorem runs_openList (hI : MemoOnly I) (hlr : mc.listRef = false) (p : Nat) (s : σ) :
    RunsP mc hook c (if p ≥ 1 then [93] else [40, 108]) (I s)
      (fun st st' => I s st' ∧ st'.stack = .list [] :: st.stack ∧ st'.heap = st.heap) := by
  split
  · refine RunsP.one (parses_op 93 .emptyList rfl parseArg_93) ?_
    intro pos st _ hj
    exact ⟨push st (.list []), by simp [exec, mkList, hlr], rfl, hI s st _ rfl hj, rfl, rfl⟩
  · have hp : Parses [40, 108] [.mark, .list] := by
      simpa using Parses.append (parses_op 40 .mark rfl parseArg_40) (parses_op 108 .list rfl parseArg_108)
    refine ⟨[.mark, .list], hp, fun insn st _ hj => ?_⟩
    refine ⟨{ st with stack := .list [] :: st.stack }, ?_, rfl, hI s st _ rfl hj, rfl, rfl⟩
    simp [runFrom, exec, push, splitAtMark, isMark, mkList, hlr]

theorem runs_openDict (hI : MemoOnly I) (p : Nat) (s : σ) :
    RunsP mc hook c (if p ≥ 1 then [125] else [40, 100]) (I s)
      (fun st st' => I s st' ∧ st'.stack = .href st.heap.length :: st.stack ∧ st'.heap = st.heap ++ [{ kind := dictKind mc.cfg }]) := by
  split
  · refine RunsP.one (parses_op 125 .emptyDict rfl parseArg_125) ?_
    intro pos st _ hj
    exact ⟨push { st with heap := st.heap ++ [{ kind := dictKind mc.cfg }] } (.href st.heap.length), by simp [exec, allocObj], rfl,
      hI s st _ rfl hj, rfl, rfl⟩
  · have hp : Parses [40, 100] [.mark, .dict] := by
      simpa using Parses.append (parses_op 40 .mark rfl parseArg_40) (parses_op 100 .dict rfl parseArg_100)
    refine ⟨[.mark, .dict], hp, fun insn st _ hj => ?_⟩
    refine ⟨{ st with heap := st.heap ++ [{ kind := dictKind mc.cfg }], stack := .href st.heap.length :: st.stack }, ?_, rfl,
      hI s st _ rfl hj, rfl, rfl⟩
    simp [runFrom, exec, push, splitAtMark, isMark, assignAll, allocObj]

theorem pushesG_list (hI : MemoOnly I) (hlr : mc.listRef = false) (py : Bool) (p : Nat) (pb : Bytes) (xs : List PyObj) (fs : List Bytes)
    {s s1 s' : σ} {vp : GoVal → Prop} (hput : PutOK mc hook c I pb vp s s1) (hvp : vp (.list []))
    (hf : FragsGN mc hook c I fs (xs.map fun x => [x]) s1 s') :
    PushesG mc hook c I ((if p ≥ 1 then [93] else [40, 108]) ++ pb ++ cpBatchList py p fs) (.list xs) s s' := by
  obtain ⟨gs, e1, hfst, hsnd⟩ := groups_zip (batchList_groups py p) fs xs (by simpa using hf.length)
  rw [← hsnd, List.map_map, ← hfst] at hf
  have hg := runs_listGroups hI gs hf
  rw [hsnd] at hg
  rw [e1]
  refine RunsP.weaken (RunsP.seq (RunsP.seq (runs_openList hI hlr p s) hput ?_) hg ?_) (fun _ h => h) ?_
  · intro st st1 _ _ ⟨hj, hs, _⟩
    exact ⟨hj, _, _, hs, rfl, hvp⟩
  · intro st st2 _ _ ⟨st1, _, ⟨_, hs1, _⟩, hj2, hs2, _⟩
    exact ⟨hj2, [], st.stack, by rw [hs2, hs1]⟩
  · intro st st3 _ _ ⟨st2, _, ⟨st1, _, ⟨_, hs1, hh1⟩, _, hs2, hh2⟩, hj3, q⟩
    have hs : st2.stack = .list [] :: st.stack := by rw [hs2, hs1]
    have hh : st2.heap = st.heap := by rw [hh2, hh1]
    obtain ⟨rs, hs3, hr, hk⟩ := q [] st.stack hs
    unfold KeepsH at hk ⊢
    rw [hh] at hr hk
    exact ⟨hj3, .list rs, by simpa using hs3, ⟨rs, rfl, hr⟩, hk⟩

theorem pushesG_dict (hI : MemoOnly I) (py : Bool) (p : Nat) (pb : Bytes) (kvs : List (PyObj × PyObj)) (fs : List Bytes)
    {s s1 s' : σ} {vp : GoVal → Prop} (hput : PutOK mc hook c I pb vp s s1) (hvp : ∀ id, vp (.href id))
    (hf : FragsGN mc hook c I fs (kvs.map fun kv => [kv.1, kv.2]) s1 s')
    (hkeys : keysOK mc.cfg false (goOfPairs kvs) = true) :
    PushesG mc hook c I ((if p ≥ 1 then [125] else [40, 100]) ++ pb ++ cpBatchDict py p fs) (.dict kvs) s s' := by
  obtain ⟨gs, e1, hfst, hsnd⟩ := groups_zip (batchDict_groups py p) fs kvs (by simpa using hf.length)
  rw [← hsnd, List.map_map, ← hfst] at hf
  have hg := runs_dictGroups hI gs [] hf (by rw [hsnd]; simpa using hkeys)
  rw [hsnd] at hg
  rw [e1]
  refine RunsP.weaken (RunsP.seq (RunsP.seq (runs_openDict hI p s) hput ?_) hg ?_) (fun _ h => h) ?_
  · intro st st1 _ _ ⟨hj, hs, _⟩
    exact ⟨hj, _, _, hs, rfl, hvp _⟩
  · intro st st2 _ _ ⟨st1, _, ⟨_, hs1, hh1⟩, hj2, hs2, hh2⟩
    refine ⟨hj2, st.heap.length, st.stack, [], by rw [hs2, hs1], ?_, trivial⟩
    rw [hh2, hh1]; simp
  · intro st st3 _ _ ⟨st2, _, ⟨st1, _, ⟨_, hs1, hh1⟩, _, hs2, hh2⟩, hj3, q⟩
    have hs : st2.stack = .href st.heap.length :: st.stack := by rw [hs2, hs1]
    have hh : st2.heap = st.heap ++ [{ kind := dictKind mc.cfg }] := by rw [hh2, hh1]
    obtain ⟨es1, hs3, hh3, hr, hl, ho⟩ := q st.heap.length st.stack [] hs (by rw [hh]; simp) (trivial)
    have hl' : st.heap.length + 1 ≤ st3.heap.length := by rw [hh] at hl; simpa using hl
    refine ⟨hj3, .href st.heap.length, hs3, ?_, ⟨by omega, ?_⟩⟩
    · simp only [RepG]
      refine ⟨st.heap.length, es1, rfl, Nat.le_refl _, by simpa using hh3, ?_⟩
      exact RepGPairs.congr mc.cfg (AgreeL.refl _ _) (Nat.le_succ _) es1 kvs (by simpa using hr)
    · intro i _ hi
      rw [ho i (by rw [hh]; simp; omega) (by omega), hh, List.getElem?_append_left hi]

end

section
variable {mc : MCfg} {hook : Hook}

/-- The invariant of the tree-shaped case: nothing is asked of the decoder's memo. -/
abbrev ITriv : Unit → DState → Prop := fun _ _ => True

mutual
theorem pk_val (hlr : mc.listRef = false) (py : Bool) (p : Nat) : (v : PyObj) → (n : Nat) → (b : Bytes) → (n' : Nat) →
    pkOK mc.cfg p v → cpSave py p v n = some (b, n') → PushesG mc hook (ecfg p) ITriv b v () ()
  | .none => fun n b n' _ hs => by
    cases hs
    exact pushesG_none MemoOnly.trivial ()
  | .bool bv => fun n b n' _ hs => by
    cases hs
    exact pushesG_bool MemoOnly.trivial () bv
  | .int i => fun n b n' _ hs => by
    obtain ⟨b0, hci, hb⟩ := Option.map_eq_some_iff.mp hs
    cases hb
    exact pushesG_int MemoOnly.trivial () p i _ hci
  | .float f => fun n b n' hok hs => by
    cases hs
    exact pushesG_float MemoOnly.trivial () p f hok
  | .str s => fun n b n' _ hs => by
    obtain ⟨b0, hcs, hb⟩ := Option.map_eq_some_iff.mp hs
    cases hb
    exact ((pushesV_str MemoOnly.trivial () p s b0 hcs).put (PutOK.trivial p n (fun _ => True)) rfl trivial).toG
      (fun _ _ => rfl)
  | .bytes s => fun n b n' _ hs => by
    obtain ⟨b0, hcs, hb⟩ := Option.map_eq_some_iff.mp hs
    cases hb
    exact (pushesG_bytes MemoOnly.trivial () p s b0 hcs).put (PutOK.trivial p n (fun _ => True)) (fun _ _ _ _ => trivial)
  | .bytearray s => fun n b n' hok hs => by
    obtain ⟨b0, hcs, hb⟩ := Option.map_eq_some_iff.mp hs
    cases hb
    exact (pushesG_bytearray MemoOnly.trivial () p s b0 hok hcs).put (PutOK.trivial p n (fun _ => True)) (fun _ _ _ _ => trivial)
  | .tuple xs => fun n b n' hok hs => by
    dsimp only [cpSave] at hs
    by_cases hemp : xs.isEmpty = true
    · rw [if_pos hemp] at hs
      cases hs
      rw [List.isEmpty_iff.mp hemp]
      exact pushesG_emptyTuple MemoOnly.trivial p ()
    rw [if_neg hemp] at hs
    split at hs
    next fs n1 hsl =>
      cases hs
      rw [cpTupleClose, ← List.append_assoc]
      have h1 : 1 ≤ xs.length := List.length_pos_iff.mpr fun e => hemp (e ▸ rfl)
      exact pushesG_tuple MemoOnly.trivial (p ≥ 2 ∧ xs.length ≤ 3) xs (fun h => ⟨h1, h.2⟩) rfl
        (pk_list hlr py p xs n fs n1 hok hsl).items (PutOK.trivial p n1 (fun _ => True))
    cases hs
  | .list xs => fun n b n' hok hs => by
    dsimp only [cpSave] at hs
    split at hs
    next fs n1 hsl =>
      cases hs
      exact pushesG_list MemoOnly.trivial hlr py p (cpPut p n) xs fs (PutOK.trivial p n (fun _ => True)) trivial
        (pk_list hlr py p xs (n + 1) fs _ hok hsl)
    cases hs
  | .dict kvs => fun n b n' hok hs => by
    dsimp only [cpSave] at hs
    split at hs
    next fs n1 hsl =>
      cases hs
      exact pushesG_dict MemoOnly.trivial py p (cpPut p n) kvs fs (PutOK.trivial p n (fun _ => True)) (fun _ => trivial)
        (pk_pairs hlr py p kvs (n + 1) fs _ hok.1 hsl) hok.2
    cases hs
theorem pk_list (hlr : mc.listRef = false) (py : Bool) (p : Nat) : (xs : List PyObj) → (n : Nat) → (fs : List Bytes) → (n' : Nat) →
    pkOKList mc.cfg p xs → cpSaveList py p xs n = some (fs, n') → FragsGN mc hook (ecfg p) ITriv fs (xs.map fun x => [x]) () ()
  | [] => fun n fs n' _ hs => by
    cases hs
    exact rfl
  | x :: xs => fun n fs n' hok hs => by
    dsimp only [cpSaveList] at hs
    split at hs
    next b n1 h1 =>
      split at hs
      next fs2 n2 h2 =>
        cases hs
        exact ⟨(), (pk_val hlr py p x n b n1 hok.1 h1).toN, pk_list hlr py p xs n1 fs2 _ hok.2 h2⟩
      cases hs
    cases hs
theorem pk_pairs (hlr : mc.listRef = false) (py : Bool) (p : Nat) : (kvs : List (PyObj × PyObj)) → (n : Nat) → (fs : List Bytes) → (n' : Nat) →
    pkOKPairs mc.cfg p kvs → cpSavePairs py p kvs n = some (fs, n') → FragsGN mc hook (ecfg p) ITriv fs (kvs.map fun kv => [kv.1, kv.2]) () ()
  | [] => fun n fs n' _ hs => by
    cases hs
    exact rfl
  | (k, v) :: kvs => fun n fs n' hok hs => by
    dsimp only [cpSavePairs] at hs
    split at hs
    next bk n1 h1 =>
      split at hs
      next bv n2 h2 =>
        split at hs
        next fs3 n3 h3 =>
          cases hs
          exact ⟨(), by simpa using PushesGN.append (pk_val hlr py p k n bk n1 hok.1 h1).toN (pk_val hlr py p v n1 bv n2 hok.2.1 h2).toN,
            pk_pairs hlr py p kvs n2 fs3 _ hok.2.2 h3⟩
        cases hs
      cases hs
    cases hs
end

end

end Ogorek
