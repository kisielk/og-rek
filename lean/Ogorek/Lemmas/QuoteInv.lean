import Ogorek.Quote
import Ogorek.Lemmas.Utf8Inv

/-!
  `pydecodeStringEscape ∘ pyquote = id` for EVERY byte string and every `IsPrint` table:
  the protocol-0 STRING form carries any Go string / ByteString exactly.
-/
namespace Ogorek

/-- A rune `r` and the bytes `bs` it was decoded from. -/
inductive RuneShape (r : Nat) (bs : Bytes) : Prop where
  | ascii (hr : r < 0x80) (hbs : bs = [UInt8.ofNat r])
  | invalid (hr : r = runeError)
  | multi (hr : 0x80 ≤ r) (hb : ∀ b ∈ bs, (0x80 : UInt8) ≤ b)

theorem RuneExact.ge_of_multi {b0 : UInt8} {rest : Bytes} {r w : Nat} (h : RuneExact b0 rest r w) (hw : 2 ≤ w) :
    0x80 ≤ r := by
  -- the encoding of `r` has `w` bytes, and an ASCII rune's has one
  have henc := congrArg List.length (encodeRune_of_exact h (by omega)).1
  rw [List.length_take, Nat.min_eq_left h.width_le] at henc
  refine Nat.le_of_not_lt fun hlt => ?_
  simp only [encodeRune, hlt, if_true, List.length_singleton] at henc
  omega

theorem RuneExact.shape {b0 : UInt8} {rest : Bytes} {r w : Nat} (h : RuneExact b0 rest r w) :
    RuneShape r ((b0 :: rest).take w) := by
  have hge := h.ge_of_multi
  cases h with
  | ascii h0 hr hw => subst hr hw; exact .ascii h0 (by simp)
  | invalid hr hw => exact .invalid hr
  | two b1 rest' hrest h0 h1 hr hw =>
    subst hrest hw
    refine .multi (hge (by decide)) ?_
    clear hr hge
    simp [u8_le]
    omega
  | three b1 b2 rest' hrest h0 h1 h2 hr hw =>
    subst hrest hw
    refine .multi (hge (by decide)) ?_
    clear hr hge
    simp [u8_le]
    omega
  | four b1 b2 b3 rest' hrest h0 h1 h2 h3 hr hw =>
    subst hrest hw
    refine .multi (hge (by decide)) ?_
    clear hr hge
    simp [u8_le]
    omega

theorem dse_copy (b : UInt8) (rest t : Bytes) (hb : b ≠ 92) (h : pydecodeStringEscape rest = .ok t) :
    pydecodeStringEscape (b :: rest) = .ok (b :: t) := by
  rw [pydecodeStringEscape.eq_def]; simp [hb, h, Functor.map, Except.map]

theorem dse_copy_list : (l rest t : Bytes) → (∀ b ∈ l, b ≠ 92) → pydecodeStringEscape rest = .ok t →
    pydecodeStringEscape (l ++ rest) = .ok (l ++ t)
  | [], _, _, _, h => by simpa using h
  | b :: l, rest, t, hl, h => by
    have := dse_copy_list l rest t (fun x hx => hl x (by simp [hx])) h
    simpa using dse_copy b (l ++ rest) (l ++ t) (hl b (by simp)) this

theorem unhex_hexLower_small : ∀ m, m < 16 → unhex? (hexLower m) = some m := by decide

theorem hexLower_mod (n : Nat) : hexLower n = hexLower (n % 16) := by unfold hexLower; simp

theorem unhex_hexLower (n : Nat) : unhex? (hexLower n) = some (n % 16) := by
  rw [hexLower_mod]
  exact unhex_hexLower_small (n % 16) (Nat.mod_lt _ (by decide))

theorem dse_hex (b : UInt8) (rest t : Bytes) (h : pydecodeStringEscape rest = .ok t) :
    pydecodeStringEscape (hexEscape b ++ rest) = .ok (b :: t) := by
  have hb := b.toNat_lt
  unfold hexEscape
  simp only [List.cons_append, List.nil_append]
  rw [pydecodeStringEscape.eq_def]
  have hv : ¬ (255 < b.toNat / 16 % 16 * 16 + b.toNat % 16) := by omega
  have hsplit : UInt8.ofNat (b.toNat / 16 % 16) * 16 + UInt8.ofNat (b.toNat % 16) = b := by
    apply UInt8.toNat_inj.mp
    simp [UInt8.toNat_add, UInt8.toNat_mul, UInt8.toNat_ofNat']
    omega
  simp [ctrlEscape?, unhex_hexLower, h, hv, hsplit, Functor.map, Except.map]

theorem dse_hex_list : (l rest t : Bytes) → pydecodeStringEscape rest = .ok t →
    pydecodeStringEscape (l.flatMap hexEscape ++ rest) = .ok (l ++ t)
  | [], _, _, h => by simpa using h
  | b :: l, rest, t, h => by
    have := dse_hex_list l rest t h
    simpa [List.flatMap_cons] using dse_hex b (l.flatMap hexEscape ++ rest) (l ++ t) this

theorem dse_bs_quote (q : UInt8) (hq : q = 92 ∨ q = 34 ∨ q = 39) (rest t : Bytes) (h : pydecodeStringEscape rest = .ok t) :
    pydecodeStringEscape (92 :: q :: rest) = .ok (q :: t) := by
  rw [pydecodeStringEscape.eq_def]
  rcases hq with rfl | rfl | rfl <;> simp [h, Functor.map, Except.map]

theorem dse_ctrlEscape {e v : UInt8} (he : ctrlEscape? e = some v) (rest t : Bytes) (h : pydecodeStringEscape rest = .ok t) :
    pydecodeStringEscape (92 :: e :: rest) = .ok (v :: t) := by
  have hne : e ≠ 10 ∧ e ≠ 92 ∧ e ≠ 39 ∧ e ≠ 34 := by
    refine ⟨?_, ?_, ?_, ?_⟩ <;> rintro rfl <;> simp [ctrlEscape?] at he
  rw [pydecodeStringEscape.eq_def]
  simp [hne, he, h, Functor.map, Except.map]

theorem quoteCtrl_cases (r : Nat) :
    (∃ e, ctrlEscape? e = some (UInt8.ofNat r) ∧ quoteCtrl r = [92, e]) ∨ quoteCtrl r = hexEscape (UInt8.ofNat r) := by
  by_cases h7 : r = 7; · subst h7; exact .inl ⟨97, rfl, rfl⟩
  by_cases h8 : r = 8; · subst h8; exact .inl ⟨98, rfl, rfl⟩
  by_cases h12 : r = 12; · subst h12; exact .inl ⟨102, rfl, rfl⟩
  by_cases h10 : r = 10; · subst h10; exact .inl ⟨110, rfl, rfl⟩
  by_cases h13 : r = 13; · subst h13; exact .inl ⟨114, rfl, rfl⟩
  by_cases h9 : r = 9; · subst h9; exact .inl ⟨116, rfl, rfl⟩
  by_cases h11 : r = 11; · subst h11; exact .inl ⟨118, rfl, rfl⟩
  exact .inr (by simp only [quoteCtrl, h7, h8, h12, h10, h13, h9, h11, if_false])

theorem dse_ctrl (r : Nat) (rest t : Bytes) (h : pydecodeStringEscape rest = .ok t) :
    pydecodeStringEscape (quoteCtrl r ++ rest) = .ok (UInt8.ofNat r :: t) := by
  rcases quoteCtrl_cases r with ⟨e, he, hq⟩ | hq <;> rw [hq]
  · exact dse_ctrlEscape he rest t h
  · exact dse_hex _ rest t h

theorem hexLower_ne_lf (n : Nat) : hexLower n ≠ 10 := by
  rw [hexLower_mod]
  have : ∀ m, m < 16 → hexLower m ≠ 10 := by decide
  exact this _ (Nat.mod_lt _ (by decide))

theorem hexEscape_no_lf (b : UInt8) : (10 : UInt8) ∉ hexEscape b := by
  unfold hexEscape
  simp only [List.mem_cons, List.not_mem_nil, or_false, not_or]
  exact ⟨by decide, by decide, (hexLower_ne_lf _).symm, (hexLower_ne_lf _).symm⟩

theorem flatMap_hexEscape_no_lf (l : Bytes) : (10 : UInt8) ∉ l.flatMap hexEscape := by
  intro h
  obtain ⟨b, _, hb⟩ := List.mem_flatMap.mp h
  exact hexEscape_no_lf b hb

theorem quoteCtrl_no_lf (r : Nat) : (10 : UInt8) ∉ quoteCtrl r := by
  rcases quoteCtrl_cases r with ⟨e, he, hq⟩ | hq <;> rw [hq]
  · intro hm
    simp only [List.mem_cons, List.not_mem_nil, or_false] at hm
    rcases hm with hm | rfl
    · exact absurd hm (by decide)
    · simp [ctrlEscape?] at he
  · exact hexEscape_no_lf _

def quotePiece (ip : Nat → Bool) (r : Nat) (bs : Bytes) : Bytes :=
  if r = runeError then bs.flatMap hexEscape
  else if r = 92 || r = 34 then [92, UInt8.ofNat r]
  else if ip r then bs
  else if r < 32 then quoteCtrl r
  else bs.flatMap hexEscape

theorem pyquoteAux_cons (ip : Nat → Bool) (fuel : Nat) {b0 : UInt8} {rest : Bytes} {r w : Nat}
    (hd : decodeRune (b0 :: rest) = (r, w + 1)) :
    pyquoteAux ip (fuel + 1) (b0 :: rest) =
      quotePiece ip r ((b0 :: rest).take (w + 1)) ++ pyquoteAux ip fuel ((b0 :: rest).drop (w + 1)) := by
  simp only [pyquoteAux, hd]
  rfl

theorem quotePiece_cases (ip : Nat → Bool) {r : Nat} {bs : Bytes} (hs : RuneShape r bs) :
    quotePiece ip r bs = bs.flatMap hexEscape ∨
    (∃ q, (q = 92 ∨ q = 34) ∧ bs = [q] ∧ quotePiece ip r bs = [92, q]) ∨
    ((∀ b ∈ bs, b ≠ 92) ∧ (10 ∈ bs → ip 10 = true) ∧ quotePiece ip r bs = bs) ∨
    (bs = [UInt8.ofNat r] ∧ quotePiece ip r bs = quoteCtrl r) := by
  unfold quotePiece
  by_cases hre : r = runeError
  · exact .inl (if_pos hre)
  rw [if_neg hre]
  have ⟨hsmall, hascii⟩ : (r < 0x80 → bs = [UInt8.ofNat r]) ∧ ∀ c ∈ bs, c.toNat < 0x80 → r = c.toNat := by
    cases hs with
    | invalid hr => exact absurd hr hre
    | ascii hr hbs =>
      subst hbs
      exact ⟨fun _ => rfl, fun c hc _ => by
        rw [List.mem_singleton.mp hc, UInt8.toNat_ofNat', Nat.mod_eq_of_lt (Nat.lt_trans hr (by decide))]⟩
    | multi hr hb =>
      exact ⟨fun h => absurd h (Nat.not_lt.mpr hr), fun c hc hlt => absurd (u8_le.mp (hb c hc)) (Nat.not_le.mpr hlt)⟩
  by_cases hq : (r = 92 || r = 34) = true
  · rw [if_pos hq]
    simp only [Bool.or_eq_true, decide_eq_true_eq] at hq
    refine .inr (.inl ⟨UInt8.ofNat r, ?_, hsmall (by omega), rfl⟩)
    rcases hq with rfl | rfl
    · exact .inl rfl
    · exact .inr rfl
  rw [if_neg hq]
  by_cases hp : ip r = true
  · rw [if_pos hp]
    refine .inr (.inr (.inl ⟨fun b hb h92 => ?_, fun h10 => ?_, rfl⟩))
    · subst h92
      exact hq (by rw [hascii _ hb (by decide)]; rfl)
    · rw [hascii _ h10 (by decide)] at hp
      exact hp
  rw [if_neg hp]
  by_cases h32 : r < 32
  · exact .inr (.inr (.inr ⟨hsmall (Nat.lt_trans h32 (by decide)), if_pos h32⟩))
  · exact .inl (if_neg h32)

theorem quotePiece_decode (ip : Nat → Bool) {r : Nat} {bs : Bytes} (hs : RuneShape r bs) {rest t : Bytes}
    (h : pydecodeStringEscape rest = .ok t) : pydecodeStringEscape (quotePiece ip r bs ++ rest) = .ok (bs ++ t) := by
  rcases quotePiece_cases ip hs with hp | ⟨q, hq, rfl, hp⟩ | ⟨h92, _, hp⟩ | ⟨rfl, hp⟩ <;> rw [hp]
  · exact dse_hex_list bs rest t h
  · exact dse_bs_quote q (hq.imp_right .inl) rest t h
  · exact dse_copy_list bs rest t h92 h
  · exact dse_ctrl r rest t h

theorem quotePiece_no_lf (ip : Nat → Bool) (hip : ip 10 = false) {r : Nat} {bs : Bytes} (hs : RuneShape r bs) :
    (10 : UInt8) ∉ quotePiece ip r bs := by
  rcases quotePiece_cases ip hs with hp | ⟨q, hq, _, hp⟩ | ⟨_, h10, hp⟩ | ⟨_, hp⟩ <;> rw [hp]
  · exact flatMap_hexEscape_no_lf bs
  · rcases hq with rfl | rfl <;> decide
  · exact fun hm => Bool.false_ne_true (hip.symm.trans (h10 hm))
  · exact quoteCtrl_no_lf r

theorem pyquoteAux_inv (ip : Nat → Bool) : ∀ (fuel : Nat) (s tail t : Bytes), s.length ≤ fuel →
    pydecodeStringEscape tail = .ok t → pydecodeStringEscape (pyquoteAux ip fuel s ++ tail) = .ok (s ++ t)
  | 0, s, tail, t, hl, h => by
    rw [List.length_eq_zero_iff.mp (Nat.le_zero.mp hl)]
    exact h
  | _ + 1, [], _, _, _, h => h
  | fuel + 1, b0 :: rest, tail, t, hl, h => by
    obtain ⟨r, w, hd, hs⟩ := decodeRune_cons_exact b0 rest
    have hwl := hs.width_le
    have := quotePiece_decode ip hs.shape
      (pyquoteAux_inv ip fuel ((b0 :: rest).drop (w + 1)) tail t (by simp at hl hwl ⊢; omega) h)
    rw [← List.append_assoc (List.take _ _), List.take_append_drop] at this
    rw [pyquoteAux_cons ip fuel hd, List.append_assoc]
    exact this

theorem pyquote_inv (ip : Nat → Bool) (s : Bytes) : pydecodeStringEscape (pyquoteAux ip s.length s) = .ok s := by
  have := pyquoteAux_inv ip s.length s [] [] (Nat.le_refl _) (by rw [pydecodeStringEscape.eq_def])
  simpa using this

theorem pyquoteAux_no_lf (ip : Nat → Bool) (hip : ip 10 = false) : ∀ (fuel : Nat) (s : Bytes),
    (10 : UInt8) ∉ pyquoteAux ip fuel s
  | 0, _ => List.not_mem_nil
  | _ + 1, [] => List.not_mem_nil
  | fuel + 1, b0 :: rest => by
    obtain ⟨r, w, hd, hs⟩ := decodeRune_cons_exact b0 rest
    rw [pyquoteAux_cons ip fuel hd, List.mem_append]
    exact fun hm => hm.elim (quotePiece_no_lf ip hip hs.shape) (pyquoteAux_no_lf ip hip fuel _)

theorem pyquote_no_lf (ip : Nat → Bool) (hip : ip 10 = false) (s : Bytes) : (10 : UInt8) ∉ pyquote ip s := by
  unfold pyquote
  simp only [List.mem_cons, List.mem_append, List.not_mem_nil, or_false, not_or]
  exact ⟨by decide, pyquoteAux_no_lf ip hip _ s, by decide⟩

end Ogorek
