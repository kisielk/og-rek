import Ogorek.Pvm
import Ogorek.Lemmas.Run
import Ogorek.Lemmas.EncParse
import Ogorek.Lemmas.EncParseTxt

/-!
  Running the encoder's output on the model of CPython's unpickler (`Ogorek/Pvm.lean`): the framework
  (straight-line runs, frames, "pushes one value") mirroring `Lemmas/RoundTrip.lean`, which does the same
  for og-rek's own decoder.
-/
namespace Ogorek

def prunFrom : List Insn → PState → PM PState
  | [], st => .ok st
  | i :: is, st =>
    match pexec i st with
    | .ok st' => prunFrom is st'
    | .error e => .error e

theorem prunFrom_append (is1 is2 : List Insn) (st st1 : PState) (h : prunFrom is1 st = .ok st1) :
    prunFrom (is1 ++ is2) st = prunFrom is2 st1 := by
  induction is1 generalizing st with
  | nil => simp [prunFrom] at h; subst h; simp
  | cons i is ih =>
    simp only [prunFrom, List.cons_append] at h ⊢
    cases he : pexec i st with
    | error e => rw [he] at h; simp at h
    | ok st' =>
      rw [he] at h
      simp only at h ⊢
      exact ih _ h

/-- No FRAME among the instructions (the encoder never writes one). -/
def noFrame : List Insn → Bool
  | [] => true
  | i :: is => !i.isFrame && noFrame is

theorem noFrame_append (a b : List Insn) : noFrame (a ++ b) = (noFrame a && noFrame b) := by
  induction a with
  | nil => simp [noFrame]
  | cons i a ih => simp [noFrame, ih, Bool.and_assoc]

theorem frameStep_ok (i : Insn) (arg rest : Bytes) (st : PState) (h : i.isFrame = false) : frameStep i arg rest st = .ok st := by
  simp [frameStep, h]

theorem pvmLoop_succ (f : Nat) (st : PState) (key : UInt8) (r rest : Bytes) (i : Insn)
    (hp : parseArg key r = .ok (i, rest)) (hs : i ≠ .stop) :
    pvmLoop (f + 1) st (key :: r) =
      match frameStep i r rest st with
      | .error e => (.error e, st, rest)
      | .ok st0 =>
        match pexec i st0 with
        | .ok st' => pvmLoop f st' rest
        | .error e => (.error e, st, rest) := by
  rw [pvmLoop]
  -- `hs` discharges the side condition of the matcher's last alternative
  simp only [readByte, hp]
  rfl

theorem pvmLoop_step (f : Nat) (st st1 : PState) (key : UInt8) (r rest : Bytes) (i : Insn)
    (hp : parseArg key r = .ok (i, rest)) (hs : i.isStop = false) (hnf : i.isFrame = false) (he : pexec i st = .ok st1) :
    pvmLoop (f + 1) st (key :: r) = pvmLoop f st1 rest := by
  have hne : i ≠ .stop := fun e => by rw [e] at hs; cases hs
  simp only [pvmLoop_succ f st key r rest i hp hne, frameStep_ok _ _ _ _ hnf, he]

theorem pvmLoop_fuel : ∀ (fuel1 fuel2 : Nat) (st : PState) (inp : Bytes), inp.length < fuel1 → inp.length < fuel2 →
    pvmLoop fuel1 st inp = pvmLoop fuel2 st inp := by
  intro fuel1
  induction fuel1 with
  | zero => intro fuel2 st inp h; omega
  | succ fuel1 ih =>
    intro fuel2 st inp h1 h2
    cases fuel2 with
    | zero => omega
    | succ fuel2 =>
      cases inp with
      | nil => simp only [pvmLoop, readByte]
      | cons key r =>
        cases hp : parseArg key r with
        | error e => simp only [pvmLoop, readByte, hp]
        | ok p =>
          obtain ⟨i, rest⟩ := p
          by_cases hs : i = .stop
          · subst hs; simp only [pvmLoop, readByte, hp]
          · have hle := (good_parseArg key).length_le hp
            simp only [List.length_cons] at h1 h2
            rw [pvmLoop_succ _ st key r rest i hp hs, pvmLoop_succ _ st key r rest i hp hs]
            cases frameStep i r rest st with
            | error e => rfl
            | ok st0 =>
              dsimp only
              cases pexec i st0 with
              | error e => rfl
              | ok st' => exact ih _ _ _ (by omega) (by omega)

theorem pvmLoop_run :
    ∀ (is : List Insn) (bs : Bytes) (st st' : PState) (t : Bytes) (fuel : Nat),
      Parses bs is → noFrame is = true → prunFrom is st = .ok st' →
      pvmLoop (fuel + is.length) st (bs ++ t) = pvmLoop fuel st' t := by
  intro is
  induction is with
  | nil =>
    intro bs st st' t fuel hp _ hr
    cases hp; cases hr; rfl
  | cons i is ih =>
    intro bs st st' t fuel hp hnf hr
    obtain ⟨key, r1, b2, rfl, hs, hpa, hrest⟩ := hp.cons_inv
    simp only [noFrame, Bool.and_eq_true, Bool.not_eq_true'] at hnf
    simp only [prunFrom] at hr
    cases he : pexec i st with
    | error e => rw [he] at hr; simp at hr
    | ok st1 =>
      rw [he] at hr
      simp only at hr
      have hlen : fuel + (i :: is).length = (fuel + is.length) + 1 := by simp; omega
      rw [hlen]
      simp only [List.cons_append, List.append_assoc]
      rw [pvmLoop_step _ st st1 key _ _ i (hpa (b2 ++ t)) hs hnf.1 he, ih b2 st1 st' t fuel hrest hnf.2 hr]

/-- What a balanced fragment may do besides pushing. -/
structure PFrame (st st' : PState) : Prop where
  memo : st'.memo = st.memo
  proto : st'.proto = st.proto
  metas : st'.metas = st.metas
  heap : ∃ t, st'.heap = st.heap ++ t

theorem PFrame.of_heap_eq {st st' : PState} (hm : st'.memo = st.memo) (hp : st'.proto = st.proto)
    (hms : st'.metas = st.metas) (hh : st'.heap = st.heap) : PFrame st st' := ⟨hm, hp, hms, [], by rw [hh, List.append_nil]⟩

theorem PFrame.refl (st : PState) : PFrame st st := .of_heap_eq rfl rfl rfl rfl

theorem PFrame.trans {a b c : PState} (h1 : PFrame a b) (h2 : PFrame b c) : PFrame a c := by
  obtain ⟨t1, e1⟩ := h1.heap
  obtain ⟨t2, e2⟩ := h2.heap
  exact ⟨h2.memo.trans h1.memo, h2.proto.trans h1.proto, h2.metas.trans h1.metas, t1 ++ t2, by rw [e2, e1, List.append_assoc]⟩

theorem PFrame.push (st : PState) (v : PyVal) : PFrame st (ppush st v) := .of_heap_eq rfl rfl rfl rfl

/-- CPython's view of "which module holds bytes / bytearray" agrees with the encoder's. -/
def PProtoOK (c : ECfg) (st : PState) : Prop := pyExecModule st.proto = pybuiltinModuleE c.proto

theorem PProtoOK.frame {c : ECfg} {st st' : PState} (h : PProtoOK c st) (f : PFrame st st') : PProtoOK c st' := by
  unfold PProtoOK at *; rw [f.proto]; exact h

def PRuns (c : ECfg) (bs : Bytes) (Q : PState → PState → Prop) : Prop :=
  ∃ is, Parses bs is ∧ noFrame is = true ∧ ∀ st, PProtoOK c st → ∃ st', prunFrom is st = .ok st' ∧ PFrame st st' ∧ Q st st'

theorem PRuns.weaken {c : ECfg} {bs : Bytes} {Q Q' : PState → PState → Prop}
    (h : PRuns c bs Q) (hq : ∀ st st', PProtoOK c st → PFrame st st' → Q st st' → Q' st st') : PRuns c bs Q' := by
  obtain ⟨is, hp, hnf, hr⟩ := h
  refine ⟨is, hp, hnf, fun st hpo => ?_⟩
  obtain ⟨st', e, f, q⟩ := hr st hpo
  exact ⟨st', e, f, hq st st' hpo f q⟩

theorem PRuns.seq {c : ECfg} {b1 b2 : Bytes} {Q1 Q2 : PState → PState → Prop}
    (h1 : PRuns c b1 Q1) (h2 : PRuns c b2 Q2) :
    PRuns c (b1 ++ b2) (fun st st'' => ∃ st', PFrame st st' ∧ PFrame st' st'' ∧ Q1 st st' ∧ Q2 st' st'') := by
  obtain ⟨is1, hp1, hn1, hr1⟩ := h1
  obtain ⟨is2, hp2, hn2, hr2⟩ := h2
  refine ⟨is1 ++ is2, Parses.append hp1 hp2, by simp [noFrame_append, hn1, hn2], fun st hpo => ?_⟩
  obtain ⟨st1, e1, f1, q1⟩ := hr1 st hpo
  obtain ⟨st2, e2, f2, q2⟩ := hr2 st1 (hpo.frame f1)
  refine ⟨st2, ?_, f1.trans f2, st1, f1, f2, q1, q2⟩
  rw [prunFrom_append is1 is2 st st1 e1, e2]

theorem PRuns.one {c : ECfg} {bs : Bytes} {i : Insn} {Q : PState → PState → Prop}
    (hp : Parses bs [i])
    (he : ∀ st, PProtoOK c st → ∃ st', pexec i st = .ok st' ∧ PFrame st st' ∧ Q st st')
    (hnf : i.isFrame = false := by rfl) : PRuns c bs Q := by
  refine ⟨[i], hp, by simp [noFrame, hnf], fun st hpo => ?_⟩
  obtain ⟨st', e, f, q⟩ := he st hpo
  exact ⟨st', by simp [prunFrom, e], f, q⟩

theorem PRuns.nil {c : ECfg} : PRuns c [] (fun st st' => st' = st) :=
  ⟨[], Parses.nil, rfl, fun st _ => ⟨st, rfl, PFrame.refl st, rfl⟩⟩

def PPushes (c : ECfg) (bs : Bytes) (P : List PObj → PyVal → Prop) : Prop :=
  PRuns c bs (fun st st' => ∃ r, st'.stack = r :: st.stack ∧ P st'.heap r)

def PPushesN (c : ECfg) (bs : Bytes) (l : Nat) (PL : List PObj → List PyVal → Prop) : Prop :=
  PRuns c bs (fun st st' => ∃ rs, st'.stack = rs.reverse ++ st.stack ∧ rs.length = l ∧ PL st'.heap rs)

theorem PPushes.one {c : ECfg} {bs : Bytes} {i : Insn} {P : List PObj → PyVal → Prop} (r : PyVal)
    (hp : Parses bs [i]) (he : ∀ st, pexec i st = .ok (ppush st r)) (hP : ∀ h, P h r)
    (hnf : i.isFrame = false := by rfl) :
    PPushes c bs P :=
  PRuns.one hp (fun st _ => ⟨ppush st r, he st, PFrame.push st _, r, rfl, hP _⟩) hnf

theorem PRuns.snoc {c : ECfg} {b1 b2 : Bytes} {i : Insn} {Q1 Q : PState → PState → Prop}
    (h1 : PRuns c b1 Q1) (hp : Parses b2 [i])
    (he : ∀ st st1, PProtoOK c st → PFrame st st1 → Q1 st st1 → ∃ st', pexec i st1 = .ok st' ∧ PFrame st1 st' ∧ Q st st')
    (hnf : i.isFrame = false := by rfl) :
    PRuns c (b1 ++ b2) Q := by
  obtain ⟨is1, hp1, hn1, hr1⟩ := h1
  refine ⟨is1 ++ [i], Parses.append hp1 hp, by simp [noFrame_append, hn1, noFrame, hnf], fun st hpo => ?_⟩
  obtain ⟨st1, e1, f1, q1⟩ := hr1 st hpo
  obtain ⟨st', e, f, q⟩ := he st st1 hpo f1 q1
  refine ⟨st', ?_, f1.trans f, q⟩
  rw [prunFrom_append is1 [i] st st1 e1]
  simp [prunFrom, e]

theorem PRuns.marked {c : ECfg} {b : Bytes} {l : Nat} {PL : List PObj → List PyVal → Prop} {i : Insn} {kb : UInt8}
    {Q : PState → PState → Prop}
    (h : PPushesN c b l PL) (hp : Parses [kb] [i])
    (he : ∀ st st1 rs, PProtoOK c st → PFrame { st with stack := [], metas := st.stack :: st.metas } st1 →
      st1.stack = rs.reverse → rs.length = l → PL st1.heap rs →
      ∃ st', pexec i st1 = .ok st' ∧ st'.memo = st.memo ∧ st'.proto = st.proto ∧ st'.metas = st.metas ∧
        (∃ t, st'.heap = st.heap ++ t) ∧ Q st st')
    (hnf : i.isFrame = false := by rfl) :
    PRuns c ([40] ++ b ++ [kb]) Q := by
  obtain ⟨is, hpb, hnb, hr⟩ := h
  have hmark : Parses [40] [.mark] := parses_op 40 .mark rfl parseArg_40
  refine ⟨[.mark] ++ is ++ [i], Parses.append (Parses.append hmark hpb) hp,
    by rw [noFrame_append, noFrame_append]; simp [hnb, noFrame, hnf, show Insn.isFrame .mark = false from rfl], fun st hpo => ?_⟩
  let st0 : PState := { st with stack := [], metas := st.stack :: st.metas }
  have hpo0 : PProtoOK c st0 := hpo
  obtain ⟨st1, e1, f1, rs, hs, hl, hpl⟩ := hr st0 hpo0
  have hs' : st1.stack = rs.reverse := by simpa [st0] using hs
  obtain ⟨st', e, hm, hpr, hme, hh, q⟩ := he st st1 rs hpo f1 hs' hl hpl
  refine ⟨st', ?_, ⟨hm, hpr, hme, hh⟩, q⟩
  have e0 : prunFrom [.mark] st = .ok st0 := rfl
  rw [List.append_assoc, prunFrom_append [.mark] (is ++ [i]) st st0 e0, prunFrom_append is [i] st0 st1 e1]
  simp [prunFrom, e]

theorem pexec_tupleN {st : PState} {n : Nat} {rs s : List PyVal} (hs : st.stack = rs.reverse ++ s) (hn : rs.length = n) :
    pexec (.tupleN n) st = .ok { st with stack := .tuple rs :: s } := by
  have hl : ¬ st.stack.length < n := by rw [hs, List.length_append, List.length_reverse]; omega
  have ht : st.stack.take n = rs.reverse := by rw [hs, ← hn]; exact List.take_left' List.length_reverse
  have hd : st.stack.drop n = s := by rw [hs, ← hn]; exact List.drop_left' List.length_reverse
  simp only [pexec, hl, if_false, ht, hd, List.reverse_reverse]

end Ogorek
