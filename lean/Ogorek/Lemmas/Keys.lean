import Ogorek.Decoder

/-! `parseArg` at each concrete opcode byte, by evaluation; `parseArg_n` for the byte of decimal value `n`.
    `decodeLoop_key` steps the loop along a literal pickle with them. -/
namespace Ogorek

theorem parseArg_40 : parseArg 40 = (Rd.pure .mark) := by rfl
theorem parseArg_46 : parseArg 46 = (Rd.pure .stop) := by rfl
theorem parseArg_48 : parseArg 48 = (Rd.pure .pop) := by rfl
theorem parseArg_49 : parseArg 49 = (Rd.pure .popMark) := by rfl
theorem parseArg_50 : parseArg 50 = (Rd.pure .dup) := by rfl
theorem parseArg_70 : parseArg 70 = (readLine.mapE parseFloatArg) := by rfl
theorem parseArg_73 : parseArg 73 = (readLine.mapE parseIntArg) := by rfl
theorem parseArg_74 : parseArg 74 = ((readFull 4).map fun b => .pushInt (toSigned 32 (leNat b))) := by rfl
theorem parseArg_75 : parseArg 75 = (readByte.map fun b => .pushInt b.toNat) := by rfl
theorem parseArg_76 : parseArg 76 = (readLine.mapE parseLongArg) := by rfl
theorem parseArg_77 : parseArg 77 = ((readFull 2).map fun b => .pushInt (leNat b)) := by rfl
theorem parseArg_78 : parseArg 78 = (Rd.pure .pushNone) := by rfl
theorem parseArg_80 : parseArg 80 = (readLine.map .persid) := by rfl
theorem parseArg_81 : parseArg 81 = (Rd.pure .binpersid) := by rfl
theorem parseArg_82 : parseArg 82 = (Rd.pure .reduce) := by rfl
theorem parseArg_83 : parseArg 83 = (readLine.mapE fun l => .pushByteString <$> parseStringArg l) := by rfl
theorem parseArg_84 : parseArg 84 = ((readCounted 4).map .pushByteString) := by rfl
theorem parseArg_85 : parseArg 85 = (readCounted1.map .pushByteString) := by rfl
theorem parseArg_86 : parseArg 86 = (readLine.mapE parseUnicodeArg) := by rfl
theorem parseArg_88 : parseArg 88 = ((readCounted 4).map .pushStr) := by rfl
theorem parseArg_97 : parseArg 97 = (Rd.pure .append) := by rfl
theorem parseArg_98 : parseArg 98 = (Rd.pure .build) := by rfl
theorem parseArg_99 : parseArg 99 = (readLine.bind fun m => readLine.map fun n => .global m n) := by rfl
theorem parseArg_100 : parseArg 100 = (Rd.pure .dict) := by rfl
theorem parseArg_125 : parseArg 125 = (Rd.pure .emptyDict) := by rfl
theorem parseArg_101 : parseArg 101 = (Rd.pure .appends) := by rfl
theorem parseArg_103 : parseArg 103 = (readLine.map .get) := by rfl
theorem parseArg_104 : parseArg 104 = (readByte.map fun b => .get (memoKey b.toNat)) := by rfl
theorem parseArg_105 : parseArg 105 = (Rd.pure .inst) := by rfl
theorem parseArg_138 : parseArg 0x8a = (readCounted1.map fun s => .pushBig (decodeLong s)) := by rfl
theorem parseArg_137 : parseArg 0x89 = (Rd.pure (.pushBool false)) := by rfl
theorem parseArg_136 : parseArg 0x88 = (Rd.pure (.pushBool true)) := by rfl
theorem parseArg_106 : parseArg 106 = ((readFull 4).map fun b => .get (memoKey (leNat b))) := by rfl
theorem parseArg_108 : parseArg 108 = (Rd.pure .list) := by rfl
theorem parseArg_93 : parseArg 93 = (Rd.pure .emptyList) := by rfl
theorem parseArg_111 : parseArg 111 = (Rd.pure .obj) := by rfl
theorem parseArg_112 : parseArg 112 = (readLine.map .put) := by rfl
theorem parseArg_113 : parseArg 113 = (readByte.map fun b => .put (memoKey b.toNat)) := by rfl
theorem parseArg_114 : parseArg 114 = ((readFull 4).map fun b => .put (memoKey (leNat b))) := by rfl
theorem parseArg_115 : parseArg 115 = (Rd.pure .setitem) := by rfl
theorem parseArg_116 : parseArg 116 = (Rd.pure .tuple) := by rfl
theorem parseArg_133 : parseArg 0x85 = (Rd.pure (.tupleN 1)) := by rfl
theorem parseArg_134 : parseArg 0x86 = (Rd.pure (.tupleN 2)) := by rfl
theorem parseArg_135 : parseArg 0x87 = (Rd.pure (.tupleN 3)) := by rfl
theorem parseArg_41 : parseArg 41 = (Rd.pure .emptyTuple) := by rfl
theorem parseArg_117 : parseArg 117 = (Rd.pure .setitems) := by rfl
theorem parseArg_71 : parseArg 71 = ((readFull 8).map fun b => .pushFloat (UInt64.ofNat (beNat b))) := by rfl
theorem parseArg_66 : parseArg 66 = ((readCounted 4).map .pushBytes) := by rfl
theorem parseArg_67 : parseArg 67 = (readCounted1.map .pushBytes) := by rfl
theorem parseArg_149 : parseArg 0x95 = ((readFull 8).map fun _ => .frame) := by rfl
theorem parseArg_140 : parseArg 0x8c = (readCounted1.map .pushStr) := by rfl
theorem parseArg_147 : parseArg 0x93 = (Rd.pure .stackGlobal) := by rfl
theorem parseArg_148 : parseArg 0x94 = (Rd.pure .memoize) := by rfl
theorem parseArg_150 : parseArg 0x96 = ((readCounted 8).map .pushBytearray) := by rfl
theorem parseArg_151 : parseArg 0x97 = (Rd.pure .nextBuffer) := by rfl
theorem parseArg_152 : parseArg 0x98 = (Rd.pure .readonlyBuffer) := by rfl
theorem parseArg_128 : parseArg 0x80 = (readByte.map fun v => .proto v.toNat) := by rfl

/-- One iteration of `decodeLoop` with the opcode byte in view. As a rewrite rule it unfolds the loop along a literal
    pickle and no further; with the rows above that reads the instructions, and what is left is their execution. -/
theorem decodeLoop_key (mc : MCfg) (hook : Hook) (f insn : Nat) (st : DState) (key : UInt8) (r : Bytes) :
    decodeLoop mc hook (f + 1) insn st (key :: r) =
      match parseArg key r with
      | .error e => (.error (if e = .eof then .unexpectedEOF else e), st, r)
      | .ok (.stop, rest) =>
        match popUser st with
        | .ok (v, st') => (.ok v, st', rest)
        | .error e => (.error e, st, rest)
      | .ok (i, rest) =>
        match exec mc hook i (insn + 1) st with
        | .ok st' => decodeLoop mc hook f (insn + 1) st' rest
        | .error e => (.error e, st, rest) := by
  rw [decodeLoop]
  rfl

end Ogorek
