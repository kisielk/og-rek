import Ogorek.Lemmas.PkRT

/-!
  CPython's unpickler on CPython's pickler: lists and dicts (created empty, memoized, filled in place), and the
  induction over the object.
-/
namespace Ogorek

section
variable {p : Nat} {mz : Option PKey → Bool}

theorem pruns_open {k1 k0 : UInt8} {i1 i0 : Insn} (o : PObj) (s : PSt) (hp1 : Parses [k1] [i1]) (hp0 : Parses [k0] [i0])
    (hf1 : i1.isFrame = false) (hf0 : i0.isFrame = false)
    (he1 : ∀ st : PState, pexec i1 st = .ok { st with heap := st.heap ++ [o], stack := .obj st.heap.length :: st.stack })
    (he0 : ∀ st : PState, prunFrom [.mark, i0] st = .ok { st with heap := st.heap ++ [o], stack := .obj st.heap.length :: st.stack }) :
    PRunsP (ecfg p) (if p ≥ 1 then [k1] else [40, k0]) (PMemoInv p s)
      (fun st st' => PMemoInv p s st' ∧ st'.stack = .obj st.heap.length :: st.stack ∧ st'.metas = st.metas ∧
        st'.heap = st.heap ++ [o]) := by
  split
  · exact PRunsP.one hp1 (fun st _ hj => ⟨_, he1 st, rfl, hj.stable rfl (KeepsBA.append _ _), rfl, rfl, rfl⟩) hf1
  · refine ⟨[.mark, i0], ?_, ?_, fun st _ hj => ?_⟩
    · simpa using Parses.append (parses_op 40 .mark rfl parseArg_40) hp0
    · simp [noFrame, hf0, show Insn.mark.isFrame = false from rfl]
    · exact ⟨_, he0 st, rfl, hj.stable rfl (KeepsBA.append _ _), rfl, rfl, rfl⟩

/-- A container on the Python machine: created empty (`ob`), memoized, then filled in place by `gb`, which finds it on top
    (`Top`) and leaves everything else as it was (`Q`). -/
theorem ppushesG_fresh {o : PObj} {v : PyVal} {ob pb gb : Bytes} {s s1 s' : PSt} {Top : PState → Prop} {Q : PState → PState → Prop}
    (hopen : PRunsP (ecfg p) ob (PMemoInv p s) (fun st st' => PMemoInv p s st' ∧ st'.stack = .obj st.heap.length :: st.stack ∧
      st'.metas = st.metas ∧ st'.heap = st.heap ++ [o]))
    (hput : putS mz p s none = some (pb, s1))
    (hg : PRunsP (ecfg p) gb (fun st => PMemoInv p s1 st ∧ Top st) (fun st st' => PMemoInv p s' st' ∧ Q st st'))
    (htop : ∀ (st : PState) id s0, st.stack = .obj id :: s0 → st.heap[id]? = some o → Top st)
    (hq : ∀ (st st' : PState) id s0, st.stack = .obj id :: s0 → st.heap[id]? = some o → Q st st' →
      st'.stack = .obj id :: s0 ∧ st'.metas = st.metas ∧ PRepG id st'.heap (.obj id) v ∧ st.heap.length ≤ st'.heap.length ∧
        ∀ i, i < st.heap.length → i ≠ id → st'.heap[i]? = st.heap[i]?) :
    PPushesG (ecfg p) p (ob ++ pb ++ gb) v s s' := by
  refine PRunsP.weaken (PRunsP.seq (PRunsP.seq hopen (pruns_putS p s s1 none pb hput) ?_) hg ?_) (fun _ h => h) ?_
  · intro st st1 _ _ ⟨hj, hs, _⟩
    exact ⟨hj, _, _, hs, nofun⟩
  · intro st st2 _ _ ⟨st1, _, ⟨_, hs1, _, hh1⟩, hj2, hs2, _, hh2⟩
    exact ⟨hj2, htop st2 st.heap.length st.stack (by rw [hs2, hs1]) (by rw [hh2, hh1]; simp)⟩
  · intro st st3 _ _ ⟨st2, _, ⟨st1, _, ⟨_, hs1, hm1, hh1⟩, _, hs2, hm2, hh2⟩, hj3, q⟩
    have hh : st2.heap = st.heap ++ [o] := by rw [hh2, hh1]
    obtain ⟨hs3, hm3, hr, hl, ho⟩ := hq st2 st3 st.heap.length st.stack (by rw [hs2, hs1]) (by rw [hh]; simp) q
    rw [hh, List.length_append] at hl ho
    refine ⟨hj3, .obj st.heap.length, hs3, by rw [hm3, hm2, hm1], hr, by omega, fun i _ hi => ?_⟩
    rw [ho i (by omega) (by omega), List.getElem?_append_left hi]

theorem ppushesG_list (py : Bool) (pb : Bytes) (xs : List PyVal) (fs : List Bytes) {s s1 s' : PSt}
    (hput : putS mz p s none = some (pb, s1))
    (hf : PFragsGN (ecfg p) p fs (xs.map fun x => [x]) s1 s') :
    PPushesG (ecfg p) p ((if p ≥ 1 then [93] else [40, 108]) ++ pb ++ cpBatchList py p fs) (.list xs) s s' := by
  obtain ⟨gs, e1, hfst, hsnd⟩ := groups_zip (batchList_groups py p) fs xs (by simpa using hf.length)
  rw [← hsnd, List.map_map, ← hfst] at hf
  have hg := pruns_listGroups (c := ecfg p) gs [] hf
  rw [hsnd] at hg
  rw [e1]
  have he1 : ∀ st : PState, pexec .emptyList st =
      .ok { st with heap := st.heap ++ [.list []], stack := .obj st.heap.length :: st.stack } :=
    fun st => by simp [pexec, palloc, ppush]
  have he0 : ∀ st : PState, prunFrom [.mark, .list] st =
      .ok { st with heap := st.heap ++ [.list []], stack := .obj st.heap.length :: st.stack } :=
    fun st => by simp [prunFrom, pexec, popMark, palloc, ppush, bind, Except.bind, pure, Except.pure]
  have hopen := pruns_open (p := p) (.list []) s (parses_op 93 .emptyList rfl parseArg_93) (parses_op 108 .list rfl parseArg_108)
    rfl rfl he1 he0
  refine ppushesG_fresh hopen hput hg (fun st id s0 hs hh => ⟨id, s0, [], hs, hh, trivial⟩) fun st st' id s0 hs hh q => ?_
  obtain ⟨rs, hs3, hm3, hh3, hr, hl, ho⟩ := q id s0 [] hs hh (trivial)
  refine ⟨hs3, hm3, ?_, hl, ho⟩
  simp only [PRepG]
  exact ⟨id, rs, rfl, Nat.le_refl _, by simpa using hh3,
    PRepGList.congr (AgreeL.refl _ _) (KeepsBA.refl _) (Nat.le_succ _) rs xs (by simpa using hr)⟩

theorem ppushesG_dict (py : Bool) (pb : Bytes) (kvs : List (PyVal × PyVal)) (fs : List Bytes) {s s1 s' : PSt}
    (hput : putS mz p s none = some (pb, s1))
    (hf : PFragsGN (ecfg p) p fs (kvs.map fun kv => [kv.1, kv.2]) s1 s')
    (hhash : (kvs.all fun e => pyHashable e.1) = true) (hnan : nanKeys kvs ≤ 1) :
    PPushesG (ecfg p) p ((if p ≥ 1 then [125] else [40, 100]) ++ pb ++ cpBatchDict py p fs) (.dict (pyDictOf kvs)) s s' := by
  obtain ⟨gs, e1, hfst, hsnd⟩ := groups_zip (batchDict_groups py p) fs kvs (by simpa using hf.length)
  rw [← hsnd, List.map_map, ← hfst] at hf
  have hg := pruns_dictGroups (c := ecfg p) gs [] hf (by rw [hsnd]; exact hhash) (by rw [hsnd]; simpa [nanKeys] using hnan)
  rw [hsnd] at hg
  rw [e1]
  have he1 : ∀ st : PState, pexec .emptyDict st =
      .ok { st with heap := st.heap ++ [.dict []], stack := .obj st.heap.length :: st.stack } :=
    fun st => by simp [pexec, palloc, ppush]
  have he0 : ∀ st : PState, prunFrom [.mark, .dict] st =
      .ok { st with heap := st.heap ++ [.dict []], stack := .obj st.heap.length :: st.stack } :=
    fun st => by simp [prunFrom, pexec, popMark, palloc, ppush, pyAssignAll, bind, Except.bind, pure, Except.pure]
  have hopen := pruns_open (p := p) (.dict []) s (parses_op 125 .emptyDict rfl parseArg_125) (parses_op 100 .dict rfl parseArg_100)
    rfl rfl he1 he0
  refine ppushesG_fresh hopen hput hg (fun st id s0 hs hh => ⟨id, s0, [], hs, hh, trivial⟩) fun st st' id s0 hs hh q => ?_
  obtain ⟨es, hs3, hm3, hh3, hr, hl, ho⟩ := q id s0 [] hs hh (trivial)
  refine ⟨hs3, hm3, ?_, hl, ho⟩
  simp only [PRepG]
  exact ⟨id, es, rfl, Nat.le_refl _, hh3, PRepGEntries.congr (AgreeL.refl _ _) (KeepsBA.refl _) (Nat.le_succ _) es _ hr⟩

theorem pyOfList_length : (xs : List PyObj) → (pyOfList xs).length = xs.length
  | [] => rfl
  | _ :: xs => by simp [pyOfList, pyOfList_length xs]

theorem PFragsGN.items {c : ECfg} {fs : List Bytes} {xs : List PyVal} {s s' : PSt} (h : PFragsGN c p fs (xs.map fun x => [x]) s s') :
    PPushesGN c p fs.flatten xs s s' := by
  have e : (xs.map fun x => [x]).flatten = xs := by simpa using flatten_map_singleton id xs
  exact e ▸ h.flatten

mutual
theorem psk_val (py : Bool) : (v : PyObjS) → (s : PSt) → (b : Bytes) → (s' : PSt) →
    pyOKp p (erase v) → cpSaveS mz py p v s = some (b, s') → PPushesG (ecfg p) p b (pyOf (erase v)) s s'
  | .none => fun s b s' _ hs => by
    cases hs
    exact PPushesG.one .none _ s (parses_op 78 .pushNone rfl parseArg_78) (fun _ => rfl) (fun _ _ => rfl)
  | .bool bv => fun s b s' _ hs => by
    cases hs
    exact PPushesG.one (.bool bv) _ s (parses_bool' (ecfg p) bv) (fun _ => rfl) (fun _ _ => rfl)
  | .int i => fun s b s' _ hs => by
    obtain ⟨b0, hci, hb⟩ := Option.map_eq_some_iff.mp hs
    cases hb
    -- INT / BININT* and LONG / LONG1 push the same `int` on the Python machine, and neither is FRAME
    have hexec : ∀ st, pexec (if fits32 i = true then .pushInt i else .pushBig i) st = .ok (ppush st (.int i)) :=
      fun _ => by split <;> rfl
    have hnf : (if fits32 i = true then Insn.pushInt i else .pushBig i).isFrame = false := by split <;> rfl
    exact PPushesG.one (.int i) _ s (parses_cpInt p i _ hci) hexec (fun _ _ => rfl) hnf
  | .float f => fun s b s' hok hs => by
    cases hs
    exact PPushesG.one (.float f) _ s (parses_cpFloat p f (by simpa [erase, pyOKp] using hok)) (fun _ => rfl)
      (fun _ _ => rfl)
  | .str oid t => fun s b s' hok hs => by
    refine psaveStrS_ok s s' (some (.str oid t)) (if strCopied py p t then none else some (.str oid t)) t b hok
      (fun _ e => Option.some.inj e ▸ rfl) (fun k hk => ?_) hs
    split at hk
    · cases hk
    · exact Option.some.inj hk ▸ rfl
  | .bytes oid d => fun s b s' _ hs =>
    psaveBytesS_ok s s' (some (.bytes oid d)) d b (fun _ e => Option.some.inj e ▸ rfl) hs
  | .bytearray oid d => fun s b s' hok hs =>
    psaveBytearrayS_ok s s' (some (.bytearray oid d)) d b hok (fun _ e => Option.some.inj e ▸ rfl) hs
  | .tuple xs => fun s b s' hok hs => by
    rcases cpSaveS_tuple_some hs with ⟨rfl, rfl, rfl⟩ | ⟨h1, fs, s1, pb, hsl, hput, rfl⟩
    · exact ppushesG_emptyTuple p s
    · have hlen : (pyOfList (eraseList xs)).length = xs.length := by rw [pyOfList_length, eraseList_length]
      exact ppushesG_tuple _ (hlen ▸ h1) (p ≥ 2 ∧ xs.length ≤ 3) (fun h => hlen ▸ h.2) (by rw [hlen])
        (psk_list py xs s fs s1 hok hsl).items hput
  | .list xs => fun s b s' hok hs => by
    obtain ⟨pb, s1, fs, hput, hsl, rfl⟩ := cpSaveS_list_some hs
    exact ppushesG_list py pb (pyOfList (eraseList xs)) fs hput (psk_list py xs s1 fs s' hok hsl)
  | .dict kvs => fun s b s' hok hs => by
    obtain ⟨pb, s1, fs, hput, hsl, rfl⟩ := cpSaveS_dict_some hs
    exact ppushesG_dict py pb (pyOfPairs (erasePairs kvs)) fs hput (psk_pairs py kvs s1 fs s' hok.1 hsl) hok.2.1 hok.2.2
theorem psk_list (py : Bool) : (xs : List PyObjS) → (s : PSt) → (fs : List Bytes) → (s' : PSt) →
    pyOKpList p (eraseList xs) → cpSaveListS mz py p xs s = some (fs, s') →
    PFragsGN (ecfg p) p fs ((pyOfList (eraseList xs)).map fun x => [x]) s s'
  | [] => fun s fs s' _ hs => by
    cases hs
    exact rfl
  | x :: xs => fun s fs s' hok hs => by
    obtain ⟨b, s1, fs2, h1, h2, rfl⟩ := cpSaveListS_cons_some hs
    exact ⟨s1, (psk_val py x s b s1 hok.1 h1).toN, psk_list py xs s1 fs2 s' hok.2 h2⟩
theorem psk_pairs (py : Bool) : (kvs : List (PyObjS × PyObjS)) → (s : PSt) → (fs : List Bytes) → (s' : PSt) →
    pyOKpPairs p (erasePairs kvs) → cpSavePairsS mz py p kvs s = some (fs, s') →
    PFragsGN (ecfg p) p fs ((pyOfPairs (erasePairs kvs)).map fun kv => [kv.1, kv.2]) s s'
  | [] => fun s fs s' _ hs => by
    cases hs
    exact rfl
  | (k, v) :: kvs => fun s fs s' hok hs => by
    obtain ⟨bk, s1, bv, s2, fs3, h1, h2, h3, rfl⟩ := cpSavePairsS_cons_some hs
    exact ⟨s2, by simpa using PPushesGN.append (psk_val py k s bk s1 hok.1 h1).toN (psk_val py v s1 bv s2 hok.2.1 h2).toN,
      psk_pairs py kvs s2 fs3 s' hok.2.2 h3⟩
end

end

end Ogorek
