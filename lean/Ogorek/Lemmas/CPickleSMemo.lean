import Ogorek.CPickleS
import Ogorek.Lemmas.CPickleRT

/-!
  Decoding what CPython's pickler writes (C02), with the memo read: the memo invariant.

  `MemoInv p s st`: the decoder's memo holds `n` entries, every key the decimal of an index below `n` (so MEMOIZE, which numbers
  by the size of the memo, and the explicit PUT forms agree), and under every index the pickler may
  fetch again lies the value that stands for the object memoized there.
-/
namespace Ogorek

/-- The decoder value of what the pickler memoized under a key. -/
def valOf (p : Nat) : PKey → GoVal
  | .str _ s => .str s
  | .bytes _ s => .bytes s
  | .bytearray _ s => .bytearray s
  | .gEncode => .cls (sb "_codecs") (sb "encode")
  | .sLatin1 => .str (sb "latin1")
  | .gBytes => .cls (pybuiltinModuleE p) (sb "bytes")
  | .gBytearray => .cls (pybuiltinModuleE p) (sb "bytearray")

def MemoInv (p : Nat) (s : PSt) (st : DState) : Prop :=
  st.memo.length = s.n ∧ s.n ≤ 2 ^ 32 ∧
  (∀ k, k ∈ st.memo.map (·.1) → ∃ i, i < s.n ∧ k = natDigits i) ∧
  (∀ k idx, (k, idx) ∈ s.tab → idx < s.n ∧ memoGet st (natDigits idx) = some (valOf p k))

section
variable {p : Nat} {s : PSt} {st : DState}

theorem MemoInv.memo_length (h : MemoInv p s st) : st.memo.length = s.n := h.1

theorem MemoInv.n_le (h : MemoInv p s st) : s.n ≤ 2 ^ 32 := h.2.1

theorem MemoInv.key_eq (h : MemoInv p s st) {k : Bytes} (hk : k ∈ st.memo.map (·.1)) : ∃ i, i < s.n ∧ k = natDigits i :=
  h.2.2.1 k hk

theorem MemoInv.get_of_mem (h : MemoInv p s st) {k : PKey} {idx : Nat} (hm : (k, idx) ∈ s.tab) :
    idx < s.n ∧ memoGet st (natDigits idx) = some (valOf p k) :=
  h.2.2.2 k idx hm

end

theorem MemoInv.init (p : Nat) (st : DState) (h : st.memo = []) : MemoInv p ⟨0, []⟩ st := by
  refine ⟨by rw [h]; rfl, Nat.zero_le _, fun k hk => ?_, fun k idx hm => nomatch hm⟩
  rw [h] at hk
  cases hk

theorem MemoInv.memoOnly (p : Nat) : MemoOnly (MemoInv p) := by
  intro s st st' e h
  unfold MemoInv memoGet at *
  rw [e]; exact h

theorem natDigits_inj {a b : Nat} (h : natDigits a = natDigits b) : a = b := by
  have := congrArg digitsVal h
  rwa [digitsVal_natDigits, digitsVal_natDigits] at this

/-- The next index is the decimal of no key present, so `memoPut` under it removes nothing. -/
theorem MemoInv.put {p : Nat} {s : PSt} {st : DState} (h : MemoInv p s st) (hn : s.n < 2 ^ 32) (key : Option PKey) (r : GoVal)
    (hr : ∀ k, key = some k → r = valOf p k) :
    MemoInv p (s.put key) (memoPut st (natDigits s.n) r) := by
  have hne : ∀ i, i < s.n → natDigits i ≠ natDigits s.n := fun i hi hh => Nat.ne_of_lt hi (natDigits_inj hh)
  have hmemo : (memoPut st (natDigits s.n) r).memo = (natDigits s.n, r) :: st.memo := by
    simp only [memoPut, List.cons.injEq, true_and]
    refine List.filter_eq_self.mpr fun e he => ?_
    obtain ⟨i, hi, hk⟩ := h.key_eq (List.mem_map_of_mem he)
    simpa [hk] using hne i hi
  have hlen : (memoPut st (natDigits s.n) r).memo.length = (s.put key).n := by
    rw [hmemo, List.length_cons, h.memo_length]; rfl
  have hle : (s.put key).n ≤ 2 ^ 32 := Nat.succ_le_of_lt hn
  have hkeys : ∀ k, k ∈ (memoPut st (natDigits s.n) r).memo.map (·.1) → ∃ i, i < (s.put key).n ∧ k = natDigits i := by
    intro k hk
    rw [hmemo, List.map_cons, List.mem_cons] at hk
    rcases hk with rfl | hk
    · exact ⟨s.n, Nat.lt_succ_self _, rfl⟩
    · obtain ⟨i, hi, e⟩ := h.key_eq hk
      exact ⟨i, Nat.lt_succ_of_lt hi, e⟩
  have hget : ∀ k idx, (k, idx) ∈ (s.put key).tab →
      idx < (s.put key).n ∧ memoGet (memoPut st (natDigits s.n) r) (natDigits idx) = some (valOf p k) := by
    intro k idx hmem
    unfold memoGet
    rcases PSt.mem_put hmem with ⟨hk, rfl⟩ | hm
    · exact ⟨Nat.lt_succ_self _, by rw [hmemo]; simp [hr k hk]⟩
    · obtain ⟨hlt, hg⟩ := h.get_of_mem hm
      refine ⟨Nat.lt_succ_of_lt hlt, ?_⟩
      rw [hmemo, List.lookup_cons, show (natDigits idx == natDigits s.n) = false by simpa using hne idx hlt]
      exact hg
  exact ⟨hlen, hle, hkeys, hget⟩

section
variable {mc : MCfg} {hook : Hook} {c : ECfg}

theorem putOK_S {mz : Option PKey → Bool} (p : Nat) (s s' : PSt) (key : Option PKey) (pb : Bytes) (h : putS mz p s key = some (pb, s')) :
    PutOK mc hook c (MemoInv p) pb (fun r => ∀ k, key = some k → r = valOf p k) s s' := by
  rcases putS_some h with ⟨hn, rfl, rfl⟩ | ⟨rfl, rfl⟩
  · refine RunsP.weaken (runs_put_at p s.n) (fun st ⟨_, r, rest, hs, hm, _⟩ => ⟨r, rest, hs, hm⟩) ?_
    intro st st' ⟨hinv, r0, rest0, hs0, _, hv⟩ _ ⟨kb, r, rest, hs, e, hk⟩
    rw [hs0] at hs
    cases hs
    rw [e, hk hn hinv.memo_length]
    exact ⟨hinv.put hn key r0 hv, rfl, rfl⟩
  · exact RunsP.nil fun st hp => ⟨hp.1, rfl, rfl⟩

theorem runs_get (p : Nat) (s : PSt) (k : PKey) (idx : Nat) (hf : s.find k = some idx) :
    RunsP mc hook c (cpGet p idx) (MemoInv p s)
      (fun st st' => MemoInv p s st' ∧ st'.stack = valOf p k :: st.stack ∧ st'.heap = st.heap) := by
  obtain ⟨key, hp, hkey⟩ := parses_cpGet p idx
  refine RunsP.one hp ?_
  intro pos st _ hinv
  obtain ⟨hlt, hg⟩ := hinv.get_of_mem (PSt.find_mem hf)
  rw [hkey (by have := hinv.n_le; omega)]
  exact ⟨push st (valOf p k), by simp [exec, hg], rfl, MemoInv.memoOnly p s st _ rfl hinv, rfl, rfl⟩

end

end Ogorek
