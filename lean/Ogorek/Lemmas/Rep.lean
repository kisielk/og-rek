import Ogorek.Decoder
import Ogorek.Dict

/-!
  Encode → Decode: the semantic half of the round trip (C03, C05, C18).

  `Rep mc ρ heap r v` — the decoder value `r` (with its `href`s into `heap`) *represents* the
  value `v` that was given to the encoder: identical in type and content, except
  * `*big.Int` objects are new allocations (fresh ids),
  * `ByteString` comes back as `string` when StrictUnicode is off,
  * builtin maps and Dicts come back as the kind the decoder's PyDict option dictates,
  * `nil` comes back as `None`,
  * `Ref{p}` comes back as `ρ p'` for a `p'` representing `p`: `ρ` is what the persistent-load hook makes
    of a Ref, the Ref itself when there is no hook (`HookFor` in `Lemmas/RoundTrip.lean`).
-/
namespace Ogorek

mutual
def Rep (mc : MCfg) (ρ : GoVal → GoVal) (heap : List HObj) (r : GoVal) : GoVal → Prop
  | .none => r = .none
  | .nil => r = .none
  | .bool b => r = .bool b
  | .int i => r = .int i
  | .big _ i => ∃ id, r = .big id i
  | .float f => r = .float f
  | .str s => r = .str s
  | .bytestr s => r = if mc.cfg.su then .bytestr s else .str s
  | .bytes s => r = .bytes s
  | .bytearray s => r = .bytearray s
  | .cls m n => r = .cls m n
  | .list xs => ∃ rs, r = .list rs ∧ RepList mc ρ heap rs xs
  | .tuple xs => ∃ rs, r = .tuple rs ∧ RepList mc ρ heap rs xs
  | .call m n args => ∃ rs, r = .call m n rs ∧ RepList mc ρ heap rs args
  | .ref pid => ∃ p, r = ρ p ∧ isMark r = false ∧ Rep mc ρ heap p pid
  | .map kvs => ∃ id es, r = .href id ∧ heap[id]? = some { kind := dictKind mc.cfg, kvs := es } ∧ RepPairs mc ρ heap es kvs
  | .dict kvs => ∃ id es, r = .href id ∧ heap[id]? = some { kind := dictKind mc.cfg, kvs := es } ∧ RepPairs mc ρ heap es kvs
  | .uint _ | .complex _ _ | .user _ | .mark | .href _ | .cycle => False
def RepList (mc : MCfg) (ρ : GoVal → GoVal) (heap : List HObj) : List GoVal → List GoVal → Prop
  | [], [] => True
  | r :: rs, x :: xs => Rep mc ρ heap r x ∧ RepList mc ρ heap rs xs
  | _, _ => False
def RepPairs (mc : MCfg) (ρ : GoVal → GoVal) (heap : List HObj) : Entries → List (GoVal × GoVal) → Prop
  | [], [] => True
  | (rk, rv) :: es, (k, v) :: kvs => Rep mc ρ heap rk k ∧ Rep mc ρ heap rv v ∧ RepPairs mc ρ heap es kvs
  | _, _ => False
end

theorem getElem?_lt_of_some {α} {l : List α} {i : Nat} {a : α} (h : l[i]? = some a) : i < l.length :=
  (List.getElem?_eq_some_iff.mp h).1

theorem getElem?_append_of_some {α} {l : List α} {i : Nat} {a : α} (t : List α) (h : l[i]? = some a) :
    (l ++ t)[i]? = some a := by
  rw [List.getElem?_append_left (getElem?_lt_of_some h)]; exact h

mutual
theorem Rep.mono (mc : MCfg) (ρ : GoVal → GoVal) (h t : List HObj) (r : GoVal) : (v : GoVal) → Rep mc ρ h r v → Rep mc ρ (h ++ t) r v
  -- `Rep` computes on a constructor: the heap is mentioned only below a container
  | .none | .nil | .bool _ | .int _ | .big _ _ | .float _ | .str _ | .bytestr _ | .bytes _ | .bytearray _ | .cls _ _
  | .uint _ | .complex _ _ | .user _ | .mark | .href _ | .cycle => id
  | .list xs | .tuple xs | .call _ _ xs => fun ⟨rs, e, hl⟩ => ⟨rs, e, RepList.mono mc ρ h t rs xs hl⟩
  | .ref p => fun ⟨q, e, hm, hp⟩ => ⟨q, e, hm, Rep.mono mc ρ h t q p hp⟩
  | .map kvs | .dict kvs => fun ⟨id, es, e, hg, hp⟩ =>
    ⟨id, es, e, getElem?_append_of_some t hg, RepPairs.mono mc ρ h t es kvs hp⟩
theorem RepList.mono (mc : MCfg) (ρ : GoVal → GoVal) (h t : List HObj) : (rs xs : List GoVal) → RepList mc ρ h rs xs → RepList mc ρ (h ++ t) rs xs
  | [], [], _ => trivial
  | [], _ :: _, hr => nomatch hr
  | _ :: _, [], hr => nomatch hr
  | r :: rs, x :: xs, hr => ⟨Rep.mono mc ρ h t r x hr.1, RepList.mono mc ρ h t rs xs hr.2⟩
theorem RepPairs.mono (mc : MCfg) (ρ : GoVal → GoVal) (h t : List HObj) : (es : Entries) → (kvs : List (GoVal × GoVal)) →
    RepPairs mc ρ h es kvs → RepPairs mc ρ (h ++ t) es kvs
  | [], [], _ => trivial
  | [], _ :: _, hr => nomatch hr
  | _ :: _, [], hr => nomatch hr
  | (rk, rv) :: es, (k, v) :: kvs, hr =>
    ⟨Rep.mono mc ρ h t rk k hr.1, Rep.mono mc ρ h t rv v hr.2.1, RepPairs.mono mc ρ h t es kvs hr.2.2⟩
end

theorem Rep.not_mark {mc : MCfg} {ρ : GoVal → GoVal} {h : List HObj} {r v : GoVal} (hr : Rep mc ρ h r v) : isMark r = false := by
  cases v with
  | none | nil | bool _ | int _ | float _ | str _ | bytes _ | bytearray _ | cls _ _ => cases hr; rfl
  | bytestr _ => cases hr; split <;> rfl
  | big _ _ => obtain ⟨_, rfl⟩ := hr; rfl
  | list _ | tuple _ | call _ _ _ => obtain ⟨_, rfl, _⟩ := hr; rfl
  | ref _ => obtain ⟨_, _, hm, _⟩ := hr; exact hm
  | map _ | dict _ => obtain ⟨_, _, rfl, _⟩ := hr; rfl
  | uint _ | complex _ _ | user _ | mark | href _ | cycle => cases hr

theorem RepList.length {mc : MCfg} {ρ : GoVal → GoVal} {h : List HObj} : {rs xs : List GoVal} → RepList mc ρ h rs xs → rs.length = xs.length
  | [], [], _ => rfl
  | [], _ :: _, hr => nomatch hr
  | _ :: _, [], hr => nomatch hr
  | _ :: rs, _ :: xs, hr => congrArg (· + 1) (RepList.length hr.2)

theorem RepList.no_mark {mc : MCfg} {ρ : GoVal → GoVal} {h : List HObj} : {rs xs : List GoVal} → RepList mc ρ h rs xs → ∀ r ∈ rs, isMark r = false
  | [], [], _ => fun _ hx => nomatch hx
  | [], _ :: _, hr => nomatch hr
  | _ :: _, [], hr => nomatch hr
  | r :: rs, _ :: xs, hr => by
    intro x hx
    rcases List.mem_cons.mp hx with rfl | hx
    · exact hr.1.not_mark
    · exact RepList.no_mark hr.2 x hx

theorem RepList.snoc {mc : MCfg} {ρ : GoVal → GoVal} {h : List HObj} : {rs xs : List GoVal} → {r x : GoVal} → RepList mc ρ h rs xs → Rep mc ρ h r x →
    RepList mc ρ h (rs ++ [r]) (xs ++ [x])
  | [], [], _, _, _, hr => ⟨hr, trivial⟩
  | [], _ :: _, _, _, hl, _ => nomatch hl
  | _ :: _, [], _, _, hl, _ => nomatch hl
  | _ :: rs, _ :: xs, _, _, hl, hr => ⟨hl.1, RepList.snoc hl.2 hr⟩

end Ogorek

