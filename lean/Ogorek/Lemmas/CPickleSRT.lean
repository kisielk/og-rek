import Ogorek.Lemmas.CPickleSForms

/-!
  Decoding what CPython's pickler writes (C02), with the memo read: bytes / bytearray in all their
  forms, and the induction over the object.
-/
namespace Ogorek

section
variable {mc : MCfg} {hook : Hook} {mz : Option PKey → Bool}

theorem repGList_nil {cfg : Cfg} {n : Nat} {h : List HObj} {rs : List GoVal} (hr : RepGList cfg n h rs []) : rs = [] := by
  cases rs with
  | nil => rfl
  | cons _ _ => simp [RepGList] at hr

theorem pushesG_emptyTupleS (p : Nat) (s : PSt) : PushesG mc hook (ecfg p) (MemoInv p) (emptyTupleBytes p) (.tuple []) s s :=
  pushesG_emptyTuple (MemoInv.memoOnly p) p s

theorem protoOK_mod {p : Nat} {st : DState} (h : ProtoOK (ecfg p) st) : pybuiltinModule st.proto = pybuiltinModuleE p := h

theorem putS_none_ok (p : Nat) (s s' : PSt) (pb : Bytes) (h : putS mz p s none = some (pb, s')) :
    PutOK mc hook (ecfg p) (MemoInv p) pb (fun _ => True) s s' := by
  refine RunsP.weaken (putOK_S (mc := mc) (hook := hook) (c := ecfg p) p s s' none pb h) ?_ (fun _ _ _ _ q => q)
  rintro st ⟨hj, r, rest, hs, hm, _⟩
  exact ⟨hj, r, rest, hs, hm, fun k hk => by cases hk⟩

theorem saveBytesS_ok (p : Nat) (s s' : PSt) (key : Option PKey) (d b : Bytes)
    (hkey : ∀ k, key = some k → valOf p k = .bytes d) (h : saveBytesS mz p s key d = some (b, s')) :
    PushesG mc hook (ecfg p) (MemoInv p) b (.bytes d) s s' := by
  have hvp : ∀ (n : Nat) (hp : List HObj) (r : GoVal), RepG mc.cfg n hp r (.bytes d) → ∀ k, key = some k → r = valOf p k :=
    fun _ _ _ hr k hk => hr.trans (hkey k hk).symm
  rcases saveBytesS_some h with ⟨idx, hfind, rfl, rfl⟩ | ⟨b0, pb, hcb, hput, rfl⟩ | ⟨g, s1, pb, rfl, hg, hput, rfl⟩ |
    ⟨g, s1, b1, s2, b2, s3, pt, s4, pb, hg, h1, h2, hpt, hput, rfl⟩
  · exact (pushesV_lookup p s key idx _ hkey hfind).toG (fun _ _ => rfl)
  · exact (pushesG_bytes (MemoInv.memoOnly p) s p d b0 hcb).put (putOK_S p s s' key pb hput) hvp
  · have hgv := saveGlobalS_ok (mc := mc) (hook := hook) p s s1 .gBytes (pybuiltinModuleE p) (sb "bytes") g rfl hg
    refine (pushesG_reduce (MemoInv.memoOnly p) (res := .bytes []) hgv (pushesG_emptyTupleS p s1) ?_).put (putOK_S p s1 s' key pb hput) hvp
    intro st rs hh nn hpo hrl
    cases repGList_nil hrl
    refine ⟨.bytes [], ?_, fun _ _ => rfl⟩
    rw [← protoOK_mod hpo]
    exact (C02_bytes_forms st.proto []).2.2.1
  · have hgv := saveGlobalS_ok (mc := mc) (hook := hook) p s s1 .gEncode (sb "_codecs") (sb "encode") g rfl hg
    have hs1 := saveStrS_ok (mc := mc) (hook := hook) p s1 s2 none none (latin1ToUtf8 d) b1 nofun nofun h1
    have hs2 := saveStrS_ok (mc := mc) (hook := hook) p s2 s3 (some .sLatin1) (some .sLatin1) (sb "latin1") b2
      (fun _ hk => Option.some.inj hk ▸ rfl) (fun _ hk => Option.some.inj hk ▸ rfl) h2
    have hitems : PushesGN mc hook (ecfg p) (MemoInv p) (b1 ++ b2) [.str (latin1ToUtf8 d), .str (sb "latin1")] s1 s3 := by
      simpa using PushesGN.append hs1.toN hs2.toN
    have hargs := pushesG_tuple (MemoInv.memoOnly p) (p ≥ 2) [.str (latin1ToUtf8 d), .str (sb "latin1")] (fun _ => by simp)
      (close := [if p ≥ 2 then 0x86 else 116]) (by by_cases h : p ≥ 2 <;> simp [h]) hitems (putS_none_ok p s3 s4 pt hpt)
    refine (pushesG_reduce (MemoInv.memoOnly p) (res := .bytes d) hgv hargs ?_).put (putOK_S p s4 s' key pb hput) hvp
    intro st rs hh nn hpo hrl
    obtain ⟨a, rs, rfl⟩ := List.exists_cons_of_length_eq_add_one (n := 1) hrl.length
    obtain ⟨b, rfl⟩ := List.length_eq_one_iff.mp (Nat.succ.inj hrl.length)
    obtain ⟨rfl, rfl, _⟩ := hrl
    exact ⟨.bytes d, (C02_bytes_forms st.proto d).1, fun _ _ => rfl⟩

theorem saveBytearrayS_ok (p : Nat) (s s' : PSt) (key : Option PKey) (d b : Bytes) (hl : d.length < 2 ^ 32)
    (hkey : ∀ k, key = some k → valOf p k = .bytearray d) (h : saveBytearrayS mz p s key d = some (b, s')) :
    PushesG mc hook (ecfg p) (MemoInv p) b (.bytearray d) s s' := by
  have hvp : ∀ (n : Nat) (hp : List HObj) (r : GoVal), RepG mc.cfg n hp r (.bytearray d) → ∀ k, key = some k → r = valOf p k :=
    fun _ _ _ hr k hk => hr.trans (hkey k hk).symm
  rcases saveBytearrayS_some h with ⟨idx, hfind, rfl, rfl⟩ | ⟨b0, pb, hcb, hput, rfl⟩ | ⟨g, s1, hg, h⟩
  · exact (pushesV_lookup p s key idx _ hkey hfind).toG (fun _ _ => rfl)
  · exact (pushesG_bytearray (MemoInv.memoOnly p) s p d b0 hl hcb).put (putOK_S p s s' key pb hput) hvp
  have hgv := saveGlobalS_ok (mc := mc) (hook := hook) p s s1 .gBytearray (pybuiltinModuleE p) (sb "bytearray") g rfl hg
  rcases h with ⟨pb, rfl, hput, rfl⟩ | ⟨bb, s2, pt, s3, pb, hb, hpt, hput, rfl⟩
  · refine (pushesG_reduce (MemoInv.memoOnly p) (res := .bytearray []) hgv (pushesG_emptyTupleS p s1) ?_).put (putOK_S p s1 s' key pb hput) hvp
    intro st rs hh nn hpo hrl
    cases repGList_nil hrl
    refine ⟨.bytearray [], ?_, fun _ _ => rfl⟩
    rw [← protoOK_mod hpo]
    exact (C02_bytes_forms st.proto []).2.2.2.1
  · have hbi := saveBytesS_ok (mc := mc) (hook := hook) p s1 s2 none d bb nofun hb
    have hargs := pushesG_tuple (MemoInv.memoOnly p) (p ≥ 2) [.bytes d] (fun _ => by simp)
      (close := [if p ≥ 2 then 0x85 else 116]) (by by_cases h : p ≥ 2 <;> simp [h]) hbi.toN (putS_none_ok p s2 s3 pt hpt)
    refine (pushesG_reduce (MemoInv.memoOnly p) (res := .bytearray d) hgv hargs ?_).put (putOK_S p s3 s' key pb hput) hvp
    intro st rs hh nn hpo hrl
    obtain ⟨a, rfl⟩ := List.length_eq_one_iff.mp hrl.length
    obtain ⟨rfl, _⟩ := hrl
    refine ⟨.bytearray d, ?_, fun _ _ => rfl⟩
    rw [← protoOK_mod hpo]
    exact (C02_bytes_forms st.proto d).2.2.2.2

end

section
variable {mc : MCfg} {hook : Hook} {mz : Option PKey → Bool}

mutual
theorem sk_val (hlr : mc.listRef = false) (py : Bool) (p : Nat) : (v : PyObjS) → (s : PSt) → (b : Bytes) → (s' : PSt) →
    pkOK mc.cfg p (erase v) → cpSaveS mz py p v s = some (b, s') → PushesG mc hook (ecfg p) (MemoInv p) b (erase v) s s'
  | .none => fun s b s' _ hs => by
    cases hs
    exact pushesG_none (MemoInv.memoOnly p) s
  | .bool bv => fun s b s' _ hs => by
    cases hs
    exact pushesG_bool (MemoInv.memoOnly p) s bv
  | .int i => fun s b s' _ hs => by
    obtain ⟨b0, hci, hb⟩ := Option.map_eq_some_iff.mp hs
    cases hb
    exact pushesG_int (MemoInv.memoOnly p) s p i _ hci
  | .float f => fun s b s' hok hs => by
    cases hs
    exact pushesG_float (MemoInv.memoOnly p) s p f hok
  | .str oid t => fun s b s' _ hs => by
    refine saveStrS_ok p s s' (some (.str oid t)) (if strCopied py p t then none else some (.str oid t)) t b
      (fun _ hk => Option.some.inj hk ▸ rfl) (fun k hk => ?_) hs
    split at hk
    · cases hk
    · exact Option.some.inj hk ▸ rfl
  | .bytes oid d => fun s b s' _ hs =>
    saveBytesS_ok p s s' (some (.bytes oid d)) d b (fun _ hk => Option.some.inj hk ▸ rfl) hs
  | .bytearray oid d => fun s b s' hok hs =>
    saveBytearrayS_ok p s s' (some (.bytearray oid d)) d b hok (fun _ hk => Option.some.inj hk ▸ rfl) hs
  | .tuple xs => fun s b s' hok hs => by
    rcases cpSaveS_tuple_some hs with ⟨rfl, rfl, rfl⟩ | ⟨h1, fs, s1, pb, hsl, hput, rfl⟩
    · exact pushesG_emptyTupleS p s
    · have hlen : (eraseList xs).length = xs.length := eraseList_length xs
      exact pushesG_tuple (MemoInv.memoOnly p) (p ≥ 2 ∧ xs.length ≤ 3) (eraseList xs) (fun h => by rw [hlen]; exact ⟨h1, h.2⟩)
        (by rw [hlen]) (sk_list hlr py p xs s fs s1 hok hsl).items (putS_none_ok p s1 s' pb hput)
  | .list xs => fun s b s' hok hs => by
    obtain ⟨pb, s1, fs, hput, hsl, rfl⟩ := cpSaveS_list_some hs
    exact pushesG_list (MemoInv.memoOnly p) hlr py p pb (eraseList xs) fs (putS_none_ok p s s1 pb hput) trivial
      (sk_list hlr py p xs s1 fs s' hok hsl)
  | .dict kvs => fun s b s' hok hs => by
    obtain ⟨pb, s1, fs, hput, hsl, rfl⟩ := cpSaveS_dict_some hs
    exact pushesG_dict (MemoInv.memoOnly p) py p pb (erasePairs kvs) fs (putS_none_ok p s s1 pb hput) (fun _ => trivial)
      (sk_pairs hlr py p kvs s1 fs s' hok.1 hsl) hok.2
theorem sk_list (hlr : mc.listRef = false) (py : Bool) (p : Nat) : (xs : List PyObjS) → (s : PSt) → (fs : List Bytes) → (s' : PSt) →
    pkOKList mc.cfg p (eraseList xs) → cpSaveListS mz py p xs s = some (fs, s') →
    FragsGN mc hook (ecfg p) (MemoInv p) fs ((eraseList xs).map fun x => [x]) s s'
  | [] => fun s fs s' _ hs => by
    cases hs
    exact rfl
  | x :: xs => fun s fs s' hok hs => by
    obtain ⟨b, s1, fs2, h1, h2, rfl⟩ := cpSaveListS_cons_some hs
    exact ⟨s1, (sk_val hlr py p x s b s1 hok.1 h1).toN, sk_list hlr py p xs s1 fs2 s' hok.2 h2⟩
theorem sk_pairs (hlr : mc.listRef = false) (py : Bool) (p : Nat) : (kvs : List (PyObjS × PyObjS)) → (s : PSt) → (fs : List Bytes) → (s' : PSt) →
    pkOKPairs mc.cfg p (erasePairs kvs) → cpSavePairsS mz py p kvs s = some (fs, s') →
    FragsGN mc hook (ecfg p) (MemoInv p) fs ((erasePairs kvs).map fun kv => [kv.1, kv.2]) s s'
  | [] => fun s fs s' _ hs => by
    cases hs
    exact rfl
  | (k, v) :: kvs => fun s fs s' hok hs => by
    obtain ⟨bk, s1, bv, s2, fs3, h1, h2, h3, rfl⟩ := cpSavePairsS_cons_some hs
    exact ⟨s2, by simpa using PushesGN.append (sk_val hlr py p k s bk s1 hok.1 h1).toN (sk_val hlr py p v s1 bv s2 hok.2.1 h2).toN,
      sk_pairs hlr py p kvs s2 fs3 s' hok.2.2 h3⟩
end

end

end Ogorek
