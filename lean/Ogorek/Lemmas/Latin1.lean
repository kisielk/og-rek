import Ogorek.Decoder

/-! Latin-1 text as UTF-8 and back: what carries Bytes below protocol 3. -/
namespace Ogorek

/-- `unicode(rlatin1)`: every byte as the rune of the same number, UTF-8 encoded. -/
def latin1ToUtf8 (d : Bytes) : Bytes := d.flatMap fun b => encodeRune b.toNat

/-- A lead byte of the two-byte range followed by a continuation byte. -/
theorem decodeRune_two {b0 b1 : UInt8} (rest : Bytes) (h0 : 0xC2 ≤ b0.toNat ∧ b0.toNat < 0xE0)
    (h1 : 0x80 ≤ b1.toNat ∧ b1.toNat ≤ 0xBF) :
    decodeRune (b0 :: b1 :: rest) = (b0.toNat % 32 * 64 + b1.toNat % 64, 2) := by
  have n (k : UInt8) (h : k.toNat ≤ b0.toNat) : ¬ b0 < k := fun hl => Nat.not_lt.mpr h (UInt8.lt_iff_toNat_lt.mp hl)
  have c : isCont b1 = true := by
    simp only [isCont, Bool.and_eq_true, decide_eq_true_eq, UInt8.le_iff_toNat_le]
    exact h1
  exact (if_neg (n 0x80 (Nat.le_trans (by decide) h0.1))).trans
    ((if_neg (n 0xC2 h0.1)).trans ((if_pos (UInt8.lt_iff_toNat_lt.mpr h0.2)).trans (if_pos c)))

theorem decodeRune_latin1 (b : UInt8) (rest : Bytes) :
    decodeRune (encodeRune b.toNat ++ rest) = (b.toNat, (encodeRune b.toNat).length) := by
  unfold encodeRune
  by_cases h1 : b.toNat < 0x80
  · rw [if_pos h1, UInt8.ofNat_toNat]
    exact if_pos (UInt8.lt_iff_toNat_lt.mpr h1)
  · rw [if_neg h1, if_pos (Nat.lt_trans b.toNat_lt (by decide))]
    -- `b = q * 64 + m` with `q` 2 or 3: the bytes are `0xC0 + q` and `0x80 + m`
    have hq : 2 ≤ b.toNat / 64 := (Nat.le_div_iff_mul_le (by decide)).mpr (Nat.le_of_not_lt h1)
    have hq' : b.toNat / 64 < 4 := Nat.div_lt_of_lt_mul b.toNat_lt
    have hm : b.toNat % 64 < 64 := Nat.mod_lt _ (by decide)
    have hr := Nat.div_add_mod' b.toNat 64
    generalize b.toNat / 64 = q at *
    generalize b.toNat % 64 = m at *
    have t0 : (UInt8.ofNat (0xC0 + q)).toNat = 0xC0 + q :=
      Nat.mod_eq_of_lt (Nat.lt_trans (Nat.add_lt_add_left hq' _) (by decide))
    have t1 : (UInt8.ofNat (0x80 + m)).toNat = 0x80 + m :=
      Nat.mod_eq_of_lt (Nat.lt_trans (Nat.add_lt_add_left hm _) (by decide))
    have e0 : (0xC0 + q) % 32 = q := (Nat.mul_add_mod 32 6 q).trans (Nat.mod_eq_of_lt (Nat.lt_trans hq' (by decide)))
    have e1 : (0x80 + m) % 64 = m := (Nat.mul_add_mod 64 2 m).trans (Nat.mod_eq_of_lt hm)
    refine (decodeRune_two rest ?_ ?_).trans ?_
    · rw [t0]
      exact ⟨Nat.add_le_add_left hq _, Nat.lt_trans (Nat.add_lt_add_left hq' _) (by decide)⟩
    · rw [t1]
      exact ⟨Nat.le_add_right _ _, Nat.le_of_lt_succ (Nat.add_lt_add_left hm _)⟩
    · rw [t0, t1, e0, e1, hr]
      rfl
theorem encodeRune_latin1_length (b : UInt8) : 1 ≤ (encodeRune b.toNat).length := by
  unfold encodeRune
  by_cases h : b.toNat < 0x80
  · rw [if_pos h]
    exact Nat.le_refl 1
  · rw [if_neg h, if_pos (Nat.lt_trans b.toNat_lt (by decide))]
    exact Nat.le_succ 1

theorem runesAux_latin1 : ∀ (d : Bytes) (fuel : Nat), d.length ≤ fuel →
    (runesAux fuel (latin1ToUtf8 d)).map (·.1) = d.map (·.toNat)
  | [], fuel, _ => by
    cases fuel <;> simp [runesAux, latin1ToUtf8, decodeRune]
  | b :: d, fuel, h => by
    cases fuel with
    | zero => simp at h
    | succ fuel =>
      have hl := encodeRune_latin1_length b
      have e : latin1ToUtf8 (b :: d) = encodeRune b.toNat ++ latin1ToUtf8 d := by simp [latin1ToUtf8]
      rw [e]
      unfold runesAux
      rw [decodeRune_latin1]
      cases hw : (encodeRune b.toNat).length with
      | zero => omega
      | succ w =>
        simp only [List.map_cons]
        have : List.drop (w + 1) (encodeRune b.toNat ++ latin1ToUtf8 d) = latin1ToUtf8 d := by
          rw [← hw]; simp
        rw [this, runesAux_latin1 d fuel (by simp at h; omega)]

theorem decodeLatin1Bytes_latin1 (d : Bytes) : decodeLatin1Bytes (.str (latin1ToUtf8 d)) = some d := by
  unfold decodeLatin1Bytes runes
  have hlen : d.length ≤ (latin1ToUtf8 d).length := by
    induction d with
    | nil => simp
    | cons b d ih =>
      have := encodeRune_latin1_length b
      simp [latin1ToUtf8] at ih ⊢
      omega
  have hm := runesAux_latin1 d _ hlen
  have hall : (runesAux (latin1ToUtf8 d).length (latin1ToUtf8 d)).all (fun x => decide (x.1 < 0x100)) = true := by
    rw [List.all_eq_true]
    intro x hx
    have : x.1 ∈ (runesAux (latin1ToUtf8 d).length (latin1ToUtf8 d)).map (·.1) := List.mem_map_of_mem hx
    rw [hm] at this
    obtain ⟨b, _, hb⟩ := List.mem_map.mp this
    have := b.toNat_lt
    simp; omega
  simp only [hall, if_true]
  congr 1
  have : (runesAux (latin1ToUtf8 d).length (latin1ToUtf8 d)).map (fun x => UInt8.ofNat x.1)
      = ((runesAux (latin1ToUtf8 d).length (latin1ToUtf8 d)).map (·.1)).map UInt8.ofNat := by simp
  rw [this, hm, List.map_map]
  have : (UInt8.ofNat ∘ fun (x : UInt8) => x.toNat) = id := by funext x; simp
  rw [this, List.map_id]

end Ogorek
