import Ogorek.Opcodes
import Ogorek.Encoder
import Ogorek.Lemmas.EncParse
import Ogorek.Lemmas.RoundTrip

/-!
  The encoder's output under the independent opcode table (C12): every fragment scans as table
  opcodes introduced in protocols ≤ p, none of them PROTO or STOP, whose combined effect on the
  abstract stack is "push one object".
-/
namespace Ogorek

def applyEffs : List Eff → AStack → Option AStack
  | [], s => some s
  | e :: es, s =>
    match applyEff e s with
    | some s' => applyEffs es s'
    | none => none

theorem applyEffs_append (a b : List Eff) (s : AStack) :
    applyEffs (a ++ b) s = match applyEffs a s with | some s' => applyEffs b s' | none => none := by
  induction a generalizing s with
  | nil => simp [applyEffs]
  | cons e es ih =>
    simp only [List.cons_append, applyEffs]
    cases applyEff e s with
    | none => rfl
    | some s' => exact ih s'

/-- An opcode of the table that may occur inside the body of a protocol-`p` pickle. -/
structure OpOK (p : Nat) (info : OpInfo) : Prop where
  notStop : (info.eff == .stop) = false
  notProto : (info.code == 0x80) = false
  le : info.proto ≤ p

def Scans (p : Nat) : Bytes → List Eff → Prop
  | bs, [] => bs = []
  | bs, e :: es => ∃ b1 b2 info, bs = b1 ++ b2 ∧ info.eff = e ∧ OpOK p info ∧
      (∀ t, ∃ arg, scanOp (b1 ++ t) = .ok ((info, arg), t)) ∧ Scans p b2 es

theorem Scans.nil (p : Nat) : Scans p [] [] := rfl

theorem Scans.single {p : Nat} {b : Bytes} (info : OpInfo) (hok : OpOK p info)
    (h : ∀ t, ∃ arg, scanOp (b ++ t) = .ok ((info, arg), t)) : Scans p b [info.eff] :=
  ⟨b, [], info, by simp, rfl, hok, h, rfl⟩

theorem Scans.append {p : Nat} {b1 b2 : Bytes} {e1 e2 : List Eff} (h1 : Scans p b1 e1) (h2 : Scans p b2 e2) :
    Scans p (b1 ++ b2) (e1 ++ e2) := by
  induction e1 generalizing b1 with
  | nil => simp [Scans] at h1; subst h1; simpa using h2
  | cons e es ih =>
    obtain ⟨x, y, info, rfl, he, hok, hp, hr⟩ := h1
    exact ⟨x, y ++ b2, info, by simp, he, hok, hp, ih hr⟩

theorem Scans.length_le {p : Nat} : {effs : List Eff} → {bs : Bytes} → Scans p bs effs → effs.length ≤ bs.length
  | [], _, _ => by simp
  | e :: es, bs, h => by
    obtain ⟨b1, b2, info, rfl, _, _, hp, hr⟩ := h
    have ih := Scans.length_le hr
    have : 1 ≤ b1.length := by
      cases b1 with
      | nil =>
        obtain ⟨_, h0⟩ := hp []
        simp [scanOp] at h0
      | cons x xs => simp
    simp; omega

theorem scanLoop_run (p : Nat) : ∀ (effs : List Eff) (bs : Bytes) (fuel : Nat) (s s' : AStack) (names : List String)
    (maxp : Nat) (firstp : Option Nat) (pcount : Nat) (t : Bytes),
    Scans p bs effs → applyEffs effs s = some s' → (effs ≠ [] → True) →
    ∃ names' maxp', scanLoop (fuel + effs.length) s names maxp firstp pcount (bs ++ t) =
        scanLoop fuel s' names' maxp' firstp pcount t ∧ maxp ≤ maxp' ∧ maxp' ≤ max maxp p ∧
        (names ≠ [] ∨ effs ≠ [] → names' ≠ []) := by
  intro effs
  induction effs with
  | nil =>
    intro bs fuel s s' names maxp firstp pcount t hs ha _
    obtain rfl : bs = [] := hs
    obtain rfl : s = s' := Option.some.inj ha
    exact ⟨names, maxp, rfl, Nat.le_refl _, Nat.le_max_left _ _, fun h => h.elim id (absurd rfl)⟩
  | cons e es ih =>
    intro bs fuel s s' names maxp firstp pcount t hs ha _
    obtain ⟨b1, b2, info, rfl, rfl, hok, hp, hr⟩ := hs
    obtain ⟨arg, hsc⟩ := hp (b2 ++ t)
    cases hae : applyEff info.eff s with
    | none => rw [applyEffs, hae] at ha; cases ha
    | some s1 =>
      rw [applyEffs, hae] at ha
      obtain ⟨names', maxp', hrun, h1, h2, h3⟩ := ih b2 fuel s1 s' (info.name :: names) (max maxp info.proto) firstp pcount t hr ha (fun _ => trivial)
      refine ⟨names', maxp', ?_, Nat.le_trans (Nat.le_max_left _ _) h1, ?_, fun _ => h3 (Or.inl (List.cons_ne_nil _ _))⟩
      · rw [List.length_cons, ← Nat.add_assoc, List.append_assoc]
        simpa only [scanLoop, hsc, hae, hok.notProto, hok.notStop, Bool.false_and, Bool.false_eq_true, if_false] using hrun
      · have := hok.le
        omega

theorem scans_op (p : Nat) (k : UInt8) (info : OpInfo) (args : Bytes) (hl : opLookup k = some info) (hok : OpOK p info)
    (hs : ∀ t, skipArg info.arg (args ++ t) = .ok ((), t)) : Scans p (k :: args) [info.eff] := by
  refine Scans.single info hok fun t => ?_
  simp only [scanOp, List.cons_append, hl, hs t]
  exact ⟨_, rfl⟩

def opIs (k : UInt8) (q : Nat) (a : ArgKind) (e : Eff) : Bool :=
  (opLookup k).any fun i => i.proto == q && i.arg == a && i.eff == e && !(i.eff == .stop) && !(i.code == 0x80)

theorem withOp {p q : Nat} {k : UInt8} {a : ArgKind} {e : Eff} {C : Prop} (h : opIs k q a e = true) (hq : q ≤ p)
    (f : ∀ info, opLookup k = some info → OpOK p info → info.arg = a → info.eff = e → C) : C := by
  unfold opIs at h
  cases hl : opLookup k with
  | none => rw [hl] at h; cases h
  | some i =>
    simp only [hl, Option.any_some, Bool.and_eq_true, beq_iff_eq, Bool.not_eq_true'] at h
    obtain ⟨⟨⟨⟨hq', ha⟩, he⟩, hs⟩, hp⟩ := h
    exact f i hl ⟨hs, hp, hq' ▸ hq⟩ ha he

/-- The rows of `opTable` behind the encoder's forms. -/
structure EncOps : Prop where
  none : opIs 78 0 .none .push
  newtrue : opIs 0x88 2 .none .push
  newfalse : opIs 0x89 2 .none .push
  int : opIs 73 0 .line .push
  binint1 : opIs 75 1 .u1 .push
  binint2 : opIs 77 1 .u2 .push
  binint : opIs 74 1 .i4 .push
  long : opIs 76 0 .line .push
  float : opIs 70 0 .line .push
  binfloat : opIs 71 1 .f8 .push
  string : opIs 83 0 .line .push
  shortBinstring : opIs 85 1 .counted1 .push
  binstring : opIs 84 1 .counted4 .push
  unicode : opIs 86 0 .line .push
  shortBinunicode : opIs 0x8c 4 .counted1 .push
  binunicode : opIs 88 1 .counted4 .push
  shortBinbytes : opIs 67 3 .counted1 .push
  binbytes : opIs 66 3 .counted4 .push
  bytearray8 : opIs 0x96 5 .counted8 .push
  global : opIs 99 0 .line2 .push
  stackGlobal : opIs 0x93 4 .none .binary
  reduce : opIs 82 0 .none .binary
  mark : opIs 40 0 .none .pushMark
  emptyTuple : opIs 41 1 .none .push
  tuple1 : opIs 0x85 2 .none (.tupleN 1)
  tuple2 : opIs 0x86 2 .none (.tupleN 2)
  tuple3 : opIs 0x87 2 .none (.tupleN 3)
  tuple : opIs 116 0 .none .collect
  emptyList : opIs 93 1 .none .push
  list : opIs 108 0 .none .collect
  emptyDict : opIs 125 1 .none .push
  dict : opIs 100 0 .none .collect
  persid : opIs 80 0 .line .push
  binpersid : opIs 81 1 .none .unary

/-- Lookup by the numeric value of the code: `Nat` literals compare much faster under `decide` than `UInt8`s. -/
theorem opLookup_toNat (k : UInt8) : opLookup k = opTable.find? (·.code.toNat == k.toNat) :=
  congrArg opTable.find? (funext fun i => Bool.eq_iff_iff.mpr (by rw [beq_iff_eq, beq_iff_eq, UInt8.toNat_inj]))

theorem encOps : EncOps := by
  constructor <;> (rw [opIs, opLookup_toNat]; decide)

theorem skip_of_read {α : Type} {a : ArgKind} {rd : Rd α} (ha : skipArg a = rd.map fun _ => ()) {inp t : Bytes} {x : α}
    (h : rd inp = .ok (x, t)) : skipArg a inp = .ok ((), t) := by
  simp only [ha, Rd.map, Rd.bind, h, Rd.pure]

theorem skip_none (t : Bytes) : skipArg .none ([] ++ t) = .ok ((), t) := rfl
theorem skip_u1 (b : UInt8) (t : Bytes) : skipArg .u1 ([b] ++ t) = .ok ((), t) := rfl
theorem skip_fixed {a : ArgKind} {n : Nat} (ha : skipArg a = (readFull n).map fun _ => ()) (x : Bytes) (h : x.length = n) (t : Bytes) :
    skipArg a (x ++ t) = .ok ((), t) :=
  skip_of_read ha (readFull_exact n x t h)
theorem skip_line (l : Bytes) (h : (10 : UInt8) ∉ l) (t : Bytes) : skipArg .line ((l ++ [10]) ++ t) = .ok ((), t) := by
  rw [List.append_assoc]
  exact skip_of_read rfl (readLine_line l t h)
theorem skip_line2 (l1 l2 : Bytes) (h1 : (10 : UInt8) ∉ l1) (h2 : (10 : UInt8) ∉ l2) (t : Bytes) :
    skipArg .line2 ((l1 ++ [10] ++ l2 ++ [10]) ++ t) = .ok ((), t) := by
  have : (l1 ++ [10] ++ l2 ++ [10]) ++ t = l1 ++ 10 :: (l2 ++ 10 :: t) := by simp
  simp only [skipArg, Rd.map, Rd.bind, this, readLine_line l1 _ h1, readLine_line l2 t h2, Rd.pure]
theorem skip_counted1 (s : Bytes) (h : s.length < 256) (t : Bytes) :
    skipArg .counted1 ((UInt8.ofNat s.length :: s) ++ t) = .ok ((), t) :=
  skip_of_read rfl (readCounted1_exact s t h)
theorem skip_counted {a : ArgKind} {w : Nat} (ha : skipArg a = (readCounted w).map fun _ => ()) (s : Bytes) (h1 : s.length < 256 ^ w)
    (h2 : s.length < 2 ^ 32) (t : Bytes) : skipArg a ((natLE w s.length ++ s) ++ t) = .ok ((), t) := by
  rw [List.append_assoc]
  exact skip_of_read ha (readCounted_exact w s t h1 (by omega))

def ScansPush (p : Nat) (bs : Bytes) : Prop := ∃ effs, Scans p bs effs ∧ ∀ s, applyEffs effs s = some (true :: s)

def ScansPushN (p : Nat) (bs : Bytes) (n : Nat) : Prop :=
  ∃ effs, Scans p bs effs ∧ ∀ s, applyEffs effs s = some (List.replicate n true ++ s)

theorem ScansPushN.zero (p : Nat) : ScansPushN p [] 0 := ⟨[], Scans.nil p, fun _ => rfl⟩

theorem replicate_snoc_true (n : Nat) (s : AStack) : List.replicate n true ++ true :: s = List.replicate (n + 1) true ++ s := by
  rw [List.replicate_succ', List.append_assoc]
  rfl

theorem ScansPushN.cons {p : Nat} {b1 b2 : Bytes} {n : Nat} (h1 : ScansPush p b1) (h2 : ScansPushN p b2 n) :
    ScansPushN p (b1 ++ b2) (n + 1) := by
  obtain ⟨e1, s1, a1⟩ := h1
  obtain ⟨e2, s2, a2⟩ := h2
  refine ⟨e1 ++ e2, Scans.append s1 s2, fun s => ?_⟩
  rw [applyEffs_append, a1 s]
  simp only [a2, replicate_snoc_true]

theorem ScansPush.op {p : Nat} {k : UInt8} {info : OpInfo} {a : ArgKind} (args : Bytes)
    (hs : ∀ t, skipArg a (args ++ t) = .ok ((), t)) (hl : opLookup k = some info) (hok : OpOK p info)
    (ha : info.arg = a) (he : info.eff = .push) : ScansPush p (k :: args) :=
  ⟨[info.eff], scans_op p k info args hl hok (ha ▸ hs), fun s => by rw [he]; rfl⟩

theorem ScansPushN.one {p : Nat} {b : Bytes} (h : ScansPush p b) : ScansPushN p b 1 := by
  simpa using ScansPushN.cons h (ScansPushN.zero p)

theorem popThroughMark_replicate (n : Nat) (s : AStack) : popThroughMark (List.replicate n true ++ false :: s) = some s := by
  induction n with
  | zero => rfl
  | succ n ih => simpa only [List.replicate_succ, List.cons_append, popThroughMark] using ih

theorem topObjs_replicate (n : Nat) (s : AStack) : topObjs n (List.replicate n true ++ s) = true := by
  simp [topObjs, List.take_left']

theorem Scans.snoc {p : Nat} {bs : Bytes} {effs : List Eff} (k : UInt8) (info : OpInfo) (hs : Scans p bs effs)
    (hl : opLookup k = some info) (hok : OpOK p info) (ha : info.arg = .none) : Scans p (bs ++ [k]) (effs ++ [info.eff]) :=
  Scans.append hs (scans_op p k info [] hl hok (fun t => by rw [ha]; exact skip_none t))

theorem ScansPush.collect {p : Nat} {bs : Bytes} {n : Nat} (k : UInt8) (info : OpInfo) (hi : ScansPushN p bs n)
    (hl : opLookup k = some info) (hok : OpOK p info) (ha : info.arg = .none) (he : info.eff = .collect) :
    ScansPush p (40 :: bs ++ [k]) := by
  obtain ⟨effs, hs, ha'⟩ := hi
  have hm : Scans p [40] [Eff.pushMark] := withOp encOps.mark (Nat.zero_le _) fun i hl hok ha he' => he' ▸ scans_op p 40 i [] hl hok (ha ▸ skip_none)
  refine ⟨[Eff.pushMark] ++ effs ++ [info.eff], Scans.snoc k info (Scans.append hm hs) hl hok ha, fun s => ?_⟩
  rw [applyEffs_append, applyEffs_append]
  simp only [applyEffs, applyEff, ha' (false :: s), he, popThroughMark_replicate, Option.map]

theorem ScansPush.tupleN {p : Nat} {bs : Bytes} {n : Nat} (k : UInt8) (info : OpInfo) (hi : ScansPushN p bs n)
    (hl : opLookup k = some info) (hok : OpOK p info) (ha : info.arg = .none) (he : info.eff = .tupleN n) :
    ScansPush p (bs ++ [k]) := by
  obtain ⟨effs, hs, ha'⟩ := hi
  refine ⟨effs ++ [info.eff], Scans.snoc k info hs hl hok ha, fun s => ?_⟩
  rw [applyEffs_append, ha' s]
  simp [applyEffs, applyEff, he, topObjs_replicate]

theorem ScansPush.binary {p : Nat} {b1 b2 : Bytes} (k : UInt8) (info : OpInfo) (h1 : ScansPush p b1) (h2 : ScansPush p b2)
    (hl : opLookup k = some info) (hok : OpOK p info) (ha : info.arg = .none) (he : info.eff = .binary) :
    ScansPush p (b1 ++ b2 ++ [k]) := by
  obtain ⟨e1, s1, a1⟩ := h1
  obtain ⟨e2, s2, a2⟩ := h2
  refine ⟨e1 ++ e2 ++ [info.eff], Scans.snoc k info (Scans.append s1 s2) hl hok ha, fun s => ?_⟩
  rw [applyEffs_append, applyEffs_append, a1 s]
  simp [a2, applyEffs, applyEff, he, topObjs]

theorem ScansPush.unary {p : Nat} {b1 : Bytes} (k : UInt8) (info : OpInfo) (h1 : ScansPush p b1)
    (hl : opLookup k = some info) (hok : OpOK p info) (ha : info.arg = .none) (he : info.eff = .unary) :
    ScansPush p (b1 ++ [k]) := by
  obtain ⟨e1, s1, a1⟩ := h1
  refine ⟨e1 ++ [info.eff], Scans.snoc k info s1 hl hok ha, fun s => ?_⟩
  rw [applyEffs_append, a1 s]
  simp [applyEffs, applyEff, he, topObjs]

section forms
variable (ip : IsPrint) (c : ECfg)

theorem flat_emit2 (a b : Bytes) : flat (emit a +> emit b) = a ++ b := by rw [flat_seq _ _ rfl, flat_emit, flat_emit]

theorem scanspush_none : ScansPush c.proto.toNat (flat (emit [78])) := by
  rw [flat_emit]
  exact withOp encOps.none (Nat.zero_le _) fun _ => ScansPush.op [] skip_none

theorem scanspush_intline (l : Bytes) (h : (10 : UInt8) ∉ l) : ScansPush c.proto.toNat (73 :: l ++ [10]) :=
  withOp encOps.int (Nat.zero_le _) fun _ => ScansPush.op (l ++ [10]) (skip_line l h)

theorem scanspush_bool (b : Bool) : ScansPush c.proto.toNat (flat (encodeBool c b)) := by
  rw [encodeBool]
  by_cases hp : c.proto ≥ 2
  · rw [if_pos hp, flat_emit]
    cases b
    · exact withOp encOps.newfalse (Int.toNat_le_toNat hp) fun _ => ScansPush.op [] skip_none
    · exact withOp encOps.newtrue (Int.toNat_le_toNat hp) fun _ => ScansPush.op [] skip_none
  · rw [if_neg hp, flat_emit]
    cases b
    · exact scanspush_intline c [48, 48] (by simp)
    · exact scanspush_intline c [48, 49] (by simp)

theorem scanspush_int (i : Int) : ScansPush c.proto.toNat (flat (encodeInt c i)) := by
  rw [encodeInt]
  by_cases h1 : c.proto ≥ 1 ∧ 0 ≤ i ∧ i ≤ 255
  · rw [if_pos h1, flat_emit]
    exact withOp encOps.binint1 (Int.toNat_le_toNat h1.1) fun _ => ScansPush.op [_] (skip_u1 _)
  rw [if_neg h1]
  by_cases h2 : c.proto ≥ 1 ∧ 0 ≤ i ∧ i ≤ 65535
  · rw [if_pos h2, flat_emit]
    exact withOp encOps.binint2 (Int.toNat_le_toNat h2.1) fun _ => ScansPush.op [_, _] (skip_fixed rfl _ rfl)
  rw [if_neg h2]
  by_cases h4 : c.proto ≥ 1 ∧ -(2 : Int) ^ 31 ≤ i ∧ i ≤ (2 : Int) ^ 31 - 1
  · rw [if_pos h4, flat_emit]
    exact withOp encOps.binint (Int.toNat_le_toNat h4.1) fun _ => ScansPush.op (le4 _) (skip_fixed rfl _ (natLE_length 4 _))
  · rw [if_neg h4, flat_emit]
    exact scanspush_intline c _ (fmtInt_no_lf i)

theorem scanspush_uint (u : Nat) : ScansPush c.proto.toNat (flat (encodeUint c u)) := by
  rw [encodeUint]
  by_cases h : (u : Int) ≤ maxInt64
  · rw [if_pos h]
    exact scanspush_int c u
  · rw [if_neg h, flat_emit]
    exact scanspush_intline c _ (natDigits_no u 10 (by decide))

theorem scanspush_long (i : Int) : ScansPush c.proto.toNat (flat (encodeLong i)) := by
  have hl : (10 : UInt8) ∉ fmtInt i ++ [76] := by simp; exact fmtInt_no_lf i
  have e : flat (encodeLong i) = 76 :: ((fmtInt i ++ [76]) ++ [10]) := by simp [encodeLong, flat_emit]
  rw [e]
  exact withOp encOps.long (Nat.zero_le _) fun _ => ScansPush.op _ (skip_line _ hl)

theorem scanspush_float (f : F64) : ScansPush c.proto.toNat (flat (encodeFloat c f)) := by
  rw [encodeFloat]
  by_cases hp : c.proto ≥ 1
  · rw [if_pos hp, flat_emit]
    exact withOp encOps.binfloat (Int.toNat_le_toNat hp) fun _ =>
      ScansPush.op (natBE 8 f.toNat) (skip_fixed rfl _ (by simp [natBE, natLE_length]))
  · rw [if_neg hp, flat_emit]
    exact withOp encOps.float (Nat.zero_le _) fun _ => ScansPush.op (F64.fmtG f ++ [10]) (skip_line _ (fmtG_no_lf f))

theorem scanspush_counted {short long : UInt8} {qs ql : Nat} (s : Bytes) (useShort : Prop) [Decidable useShort]
    (hs : opIs short qs .counted1 .push) (hl : opIs long ql .counted4 .push)
    (hqs : useShort → qs ≤ c.proto.toNat) (hql : ql ≤ c.proto.toNat) (hu : useShort → s.length < 256) (hlen : s.length < 2 ^ 32) :
    ScansPush c.proto.toNat (flat ((if useShort then emit [short, UInt8.ofNat s.length] else emit (long :: le4 s.length)) +> emit s)) := by
  by_cases h : useShort
  · rw [if_pos h, flat_emit2]
    exact withOp hs (hqs h) fun _ => ScansPush.op (UInt8.ofNat s.length :: s) (skip_counted1 s (hu h))
  · rw [if_neg h, flat_emit2]
    exact withOp hl hql fun _ => ScansPush.op (natLE 4 s.length ++ s) (skip_counted rfl s hlen hlen)

theorem scanspush_bytestring (hip : ip 10 = false) (s : Bytes) (hl : s.length < 2 ^ 32) : ScansPush c.proto.toNat (flat (encodeByteString ip c s)) := by
  rw [encodeByteString]
  by_cases hp : c.proto ≥ 1
  · rw [if_pos hp]
    exact scanspush_counted c s _ encOps.shortBinstring encOps.binstring (fun _ => Int.toNat_le_toNat hp) (Int.toNat_le_toNat hp) id hl
  · rw [if_neg hp, flat_emit]
    exact withOp encOps.string (Nat.zero_le _) fun _ => ScansPush.op (pyquote ip s ++ [10]) (skip_line _ (pyquote_no_lf ip hip s))

theorem scanspush_unicode (s : Bytes) (hl : s.length < 2 ^ 32) (he : (encodeUnicode c s).err = none) :
    ScansPush c.proto.toNat (flat (encodeUnicode c s)) := by
  rw [encodeUnicode] at he ⊢
  by_cases hp : c.proto ≥ 1
  · rw [if_pos hp]
    exact scanspush_counted c s _ encOps.shortBinunicode encOps.binunicode (fun h => Int.toNat_le_toNat h.2) (Int.toNat_le_toNat hp)
      (·.1) hl
  · rw [if_neg hp] at he ⊢
    cases hu : pyencodeRawUnicodeEscape s with
    | none => rw [hu] at he; cases he
    | some u =>
      rw [flat_emit]
      exact withOp encOps.unicode (Nat.zero_le _) fun _ => ScansPush.op (u ++ [10]) (skip_line _ (rue_no_lf s u hu))

theorem scanspush_string (hip : ip 10 = false) (s : Bytes) (hl : s.length < 2 ^ 32) (he : (encodeString ip c s).err = none) :
    ScansPush c.proto.toNat (flat (encodeString ip c s)) := by
  rw [encodeString] at he ⊢
  by_cases h : c.su ∨ c.proto ≥ 3
  · rw [if_pos h] at he ⊢
    exact scanspush_unicode c s hl he
  · rw [if_neg h]
    exact scanspush_bytestring ip c hip s hl

theorem scanspush_class (hip : ip 10 = false) (m n : Bytes) (hm : m.length < 2 ^ 32) (hn : n.length < 2 ^ 32)
    (he : (encodeClass ip c m n).err = none) : ScansPush c.proto.toNat (flat (encodeClass ip c m n)) := by
  rw [encodeClass] at he ⊢
  by_cases h4 : c.proto ≥ 4
  · rw [if_pos h4] at he ⊢
    obtain ⟨h12, _⟩ := seq_err_none he
    obtain ⟨h1, h2⟩ := seq_err_none h12
    rw [flat_seq _ _ h12, flat_seq _ _ h1, flat_emit]
    exact withOp encOps.stackGlobal (Int.toNat_le_toNat h4)
      (ScansPush.binary 0x93 · (scanspush_string ip c hip m hm h1) (scanspush_string ip c hip n hn h2))
  · rw [if_neg h4] at he ⊢
    cases hlf : containsLF m || containsLF n
    · rw [if_neg Bool.false_ne_true, flat_emit]
      obtain ⟨hlm, hln⟩ := Bool.or_eq_false_iff.mp hlf
      exact withOp encOps.global (Nat.zero_le _) fun _ =>
        ScansPush.op (m ++ [10] ++ n ++ [10]) (skip_line2 m n (not_mem_of_containsLF hlm) (not_mem_of_containsLF hln))
    · rw [hlf] at he; cases he

theorem scanspush_tupleOf (l : Nat) (items : Out) (he : items.err = none) (hi : ScansPushN c.proto.toNat (flat items) l) :
    ScansPush c.proto.toNat (flat (encodeTupleOf c l items)) := by
  rw [encodeTupleOf]
  by_cases h : c.proto ≥ 2 ∧ 1 ≤ l ∧ l ≤ 3
  · have hp := Int.toNat_le_toNat h.1
    rw [if_pos h, flat_seq _ _ he, flat_emit]
    obtain rfl | rfl | rfl : l = 1 ∨ l = 2 ∨ l = 3 := by omega
    · exact withOp encOps.tuple1 hp (ScansPush.tupleN 0x85 · hi)
    · exact withOp encOps.tuple2 hp (ScansPush.tupleN 0x86 · hi)
    · exact withOp encOps.tuple3 hp (ScansPush.tupleN 0x87 · hi)
  rw [if_neg h]
  by_cases h0 : c.proto ≥ 1 ∧ l = 0
  · rw [if_pos h0, flat_emit]
    exact withOp encOps.emptyTuple (Int.toNat_le_toNat h0.1) fun _ => ScansPush.op [] skip_none
  · rw [if_neg h0, flat_seq _ _ ((seq_err rfl).trans he), flat_seq _ _ rfl, flat_emit, flat_emit]
    exact withOp encOps.tuple (Nat.zero_le _) (ScansPush.collect 116 · hi)

end forms

section composite
variable (ip : IsPrint) (c : ECfg)

local notation "P" => c.proto.toNat

theorem scanspush_reduce (clsOut argsOut : Out) (he : (clsOut +> argsOut +> emit [82]).err = none)
    (hc : clsOut.err = none → ScansPush P (flat clsOut)) (ha : argsOut.err = none → ScansPush P (flat argsOut)) :
    ScansPush P (flat (clsOut +> argsOut +> emit [82])) := by
  obtain ⟨h12, _⟩ := seq_err_none he
  obtain ⟨h1, h2⟩ := seq_err_none h12
  rw [flat_seq _ _ h12, flat_seq _ _ h1, flat_emit]
  exact withOp encOps.reduce (Nat.zero_le _) (ScansPush.binary 82 · (hc h1) (ha h2))

theorem scanspush_bytes (hip : ip 10 = false) (s : Bytes) (hl : s.length < 2 ^ 31) (he : (encodeBytes ip c s).err = none) :
    ScansPush P (flat (encodeBytes ip c s)) := by
  rw [encodeBytes] at he ⊢
  by_cases h3 : c.proto ≥ 3
  · have hp := Int.toNat_le_toNat h3
    rw [if_pos h3]
    exact scanspush_counted c s _ encOps.shortBinbytes encOps.binbytes (fun _ => hp) hp id (by omega)
  · rw [if_neg h3] at he ⊢
    refine scanspush_reduce c _ _ he (scanspush_class ip c hip _ _ (by rw [sb_codecs]; decide) (by rw [sb_encode]; decide)) fun hte => ?_
    have hie := encodeTupleOf_err_inv 2 _ (by omega) hte
    obtain ⟨hue, _⟩ := seq_err_none hie
    refine scanspush_tupleOf c 2 _ hie ?_
    rw [flat_seq _ _ hue]
    have hul : (latin1ToUtf8 s).length < 2 ^ 32 := by have := latin1ToUtf8_length_le s; omega
    exact .cons (scanspush_unicode c (latin1ToUtf8 s) hul hue) (.one (scanspush_bytestring ip c hip (sb "latin1") (by rw [sb_latin1]; decide)))

theorem scanspush_bytearray (hip : ip 10 = false) (s : Bytes) (hl : s.length < 2 ^ 31) (he : (encodeByteArray ip c s).err = none) :
    ScansPush P (flat (encodeByteArray ip c s)) := by
  rw [encodeByteArray] at he ⊢
  by_cases h5 : c.proto ≥ 5
  · rw [if_pos h5, flat_emit2]
    exact withOp encOps.bytearray8 (Int.toNat_le_toNat h5) fun _ =>
      ScansPush.op (natLE 8 s.length ++ s) (skip_counted rfl s (by omega) (by omega))
  · rw [if_neg h5] at he ⊢
    refine scanspush_reduce c _ _ he (scanspush_class ip c hip _ _ (pybuiltinModuleE_len _) (by rw [sb_bytearray]; decide)) fun hte => ?_
    have hbe := encodeTupleOf_err_inv 1 _ (by omega) hte
    exact scanspush_tupleOf c 1 _ hbe (.one (scanspush_bytes ip c hip s hl hbe))

theorem encodeInt_err (i : Int) : (encodeInt c i).err = none := by
  simp only [encodeInt, apply_ite Out.err, emit, ite_self]

mutual
/-- Payload sizes the 4-byte length forms can carry. -/
def sizesOK : GoVal → Bool
  | .str s | .bytestr s => decide (s.length < 2 ^ 32)
  | .bytes s | .bytearray s => decide (s.length < 2 ^ 31)
  | .cls m n => decide (m.length < 2 ^ 32) && decide (n.length < 2 ^ 32)
  | .list xs | .tuple xs => sizesOKList xs
  | .call m n args => decide (m.length < 2 ^ 32) && decide (n.length < 2 ^ 32) && sizesOKList args
  | .ref p => sizesOK p
  | .map kvs | .dict kvs => sizesOKPairs kvs
  | _ => true
def sizesOKList : List GoVal → Bool
  | [] => true
  | x :: xs => sizesOK x && sizesOKList xs
def sizesOKPairs : List (GoVal × GoVal) → Bool
  | [] => true
  | (k, v) :: r => sizesOK k && sizesOK v && sizesOKPairs r
end

theorem scanspush_markDict {bs : Bytes} {n : Nat} (hi : ScansPushN P bs n) : ScansPush P (40 :: bs ++ [100]) :=
  withOp encOps.dict (Nat.zero_le _) (ScansPush.collect 100 · hi)

theorem scanspush_container {kEmpty kColl : UInt8} (n len : Nat) (items : Out)
    (he : (if c.proto ≥ 1 ∧ len = 0 then emit [kEmpty] else emit [40] +> items +> emit [kColl]).err = none)
    (hE : opIs kEmpty 1 .none .push) (hC : opIs kColl 0 .none .collect) (hi : items.err = none → ScansPushN P (flat items) n) :
    ScansPush P (flat (if c.proto ≥ 1 ∧ len = 0 then emit [kEmpty] else emit [40] +> items +> emit [kColl])) := by
  by_cases h : c.proto ≥ 1 ∧ len = 0
  · rw [if_pos h, flat_emit]
    exact withOp hE (Int.toNat_le_toNat h.1) fun _ => ScansPush.op [] skip_none
  · rw [if_neg h] at he ⊢
    obtain ⟨h1, _⟩ := seq_err_none he
    rw [flat_seq _ _ h1, flat_seq _ _ rfl, flat_emit, flat_emit]
    exact withOp hC (Nat.zero_le _) (ScansPush.collect kColl · (hi (seq_err_none h1).2))

/-- `fmtG_no_lf` proves this of every float, so `scans_enc` and `C12_conforms` do not ask for it; `scans_val`, `scans_list`
    and `scans_pairs` below take it and do not use it. -/
def FloatsLF (c : ECfg) (fs : List F64) : Prop := ∀ f ∈ fs, c.proto ≥ 1 ∨ (10 : UInt8) ∉ F64.fmtG f

mutual
theorem scans_enc (hip : ip 10 = false) (hp0 : 0 ≤ c.proto) : (v : GoVal) → sizesOK v = true →
    (enc ip c v).err = none → ScansPush P (flat (enc ip c v))
  | .none | .nil => fun _ _ => scanspush_none c
  | .bool b => fun _ _ => scanspush_bool c b
  | .int i => fun _ _ => scanspush_int c i
  | .uint u => fun _ _ => scanspush_uint c u
  | .big _ i => fun _ _ => scanspush_long c i
  | .float f => fun _ _ => scanspush_float c f
  | .str s => fun hs he => scanspush_string ip c hip s (of_decide_eq_true hs) he
  | .bytestr s => fun hs _ => scanspush_bytestring ip c hip s (of_decide_eq_true hs)
  | .bytes s => fun hs he => scanspush_bytes ip c hip s (of_decide_eq_true hs) he
  | .bytearray s => fun hs he => scanspush_bytearray ip c hip s (of_decide_eq_true hs) he
  | .cls m n => fun hs he =>
    have hs := (Bool.and_eq_true _ _).mp hs
    scanspush_class ip c hip m n (of_decide_eq_true hs.1) (of_decide_eq_true hs.2) he
  | .list xs => fun hs he => scanspush_container c _ xs.length _ he encOps.emptyList encOps.list (scans_encList hip hp0 xs hs)
  | .tuple xs => fun hs he =>
    have hie := encList_err_of_tuple ip c he
    scanspush_tupleOf c xs.length _ hie (scans_encList hip hp0 xs hs hie)
  | .map kvs | .dict kvs => fun hs he =>
    scanspush_container c _ kvs.length _ he encOps.emptyDict encOps.dict (scans_encPairs hip hp0 kvs hs)
  | .call m n args => fun hs he =>
    have hs := (Bool.and_eq_true _ _).mp hs
    have hmn := (Bool.and_eq_true _ _).mp hs.1
    scanspush_reduce c _ _ he (scanspush_class ip c hip m n (of_decide_eq_true hmn.1) (of_decide_eq_true hmn.2)) fun h2 =>
      have hie := encList_err_of_tuple ip c h2
      scanspush_tupleOf c args.length _ hie (scans_encList hip hp0 args hs.2 hie)
  | .ref pid => fun hs he => by
    dsimp only [enc] at he ⊢
    by_cases h0 : c.proto = 0
    · rw [if_pos h0] at he ⊢
      cases pid with
      | str s =>
        dsimp only at he ⊢
        cases hlf : containsLF s
        · rw [if_neg Bool.false_ne_true, flat_emit]
          exact withOp encOps.persid (Nat.zero_le _) fun _ => ScansPush.op (s ++ [10]) (skip_line _ (not_mem_of_containsLF hlf))
        · simp only [hlf, if_true] at he; cases he
      | _ => cases he
    · rw [if_neg h0] at he ⊢
      obtain ⟨h1, _⟩ := seq_err_none he
      rw [flat_seq _ _ h1, flat_emit]
      exact withOp encOps.binpersid (by omega) (ScansPush.unary 81 · (scans_enc hip hp0 pid hs h1))
  | .user n => fun _ he => by
    dsimp only [enc] at he ⊢
    obtain ⟨h123, _⟩ := seq_err_none he
    obtain ⟨h12, _⟩ := seq_err_none h123
    obtain ⟨_, hse⟩ := seq_err_none h12
    rw [flat_seq _ _ h123, flat_seq _ _ h12, flat_seq _ _ rfl, flat_emit, flat_emit, List.append_assoc [40], List.singleton_append]
    exact scanspush_markDict c (.cons (scanspush_string ip c hip (sb "N") (by decide) hse) (.one (scanspush_int c n)))
  | .mark => fun _ _ => by
    dsimp only [enc]
    rw [flat_seq _ _ rfl, flat_emit, flat_emit]
    exact scanspush_markDict c (.zero P)
  | .complex _ _ | .href _ | .cycle => fun _ he => by cases he
theorem scans_encList (hip : ip 10 = false) (hp0 : 0 ≤ c.proto) : (xs : List GoVal) → sizesOKList xs = true →
    (encList ip c xs).err = none → ScansPushN P (flat (encList ip c xs)) xs.length
  | [], _, _ => ScansPushN.zero P
  | x :: xs, hs, he => by
    have hs := (Bool.and_eq_true _ _).mp hs
    dsimp only [encList] at he ⊢
    obtain ⟨h1, h2⟩ := seq_err_none he
    rw [flat_seq _ _ h1]
    exact .cons (scans_enc hip hp0 x hs.1 h1) (scans_encList hip hp0 xs hs.2 h2)
theorem scans_encPairs (hip : ip 10 = false) (hp0 : 0 ≤ c.proto) : (kvs : List (GoVal × GoVal)) → sizesOKPairs kvs = true →
    (encPairs ip c kvs).err = none → ScansPushN P (flat (encPairs ip c kvs)) (2 * kvs.length)
  | [], _, _ => ScansPushN.zero P
  | (k, v) :: kvs, hs, he => by
    have hs := (Bool.and_eq_true _ _).mp hs
    have hkv := (Bool.and_eq_true _ _).mp hs.1
    dsimp only [encPairs] at he ⊢
    obtain ⟨h12, h3⟩ := seq_err_none he
    obtain ⟨h1, h2⟩ := seq_err_none h12
    rw [flat_seq _ _ h12, flat_seq _ _ h1, List.append_assoc]
    exact .cons (scans_enc hip hp0 k hkv.1 h1)
      (.cons (scans_enc hip hp0 v hkv.2 h2) (scans_encPairs hip hp0 kvs hs.2 h3))
end

theorem scans_val (hip : ip 10 = false) (hp0 : 0 ≤ c.proto) : (v : GoVal) → sizesOK v = true → FloatsLF c (floatsOf v) →
    (enc ip c v).err = none → ScansPush P (flat (enc ip c v)) :=
  fun v hs _ he => scans_enc ip c hip hp0 v hs he
theorem scans_list (hip : ip 10 = false) (hp0 : 0 ≤ c.proto) : (xs : List GoVal) → sizesOKList xs = true → FloatsLF c (floatsOfList xs) →
    (encList ip c xs).err = none → ScansPushN P (flat (encList ip c xs)) xs.length :=
  fun xs hs _ he => scans_encList ip c hip hp0 xs hs he
theorem scans_pairs (hip : ip 10 = false) (hp0 : 0 ≤ c.proto) : (kvs : List (GoVal × GoVal)) → sizesOKPairs kvs = true →
    FloatsLF c (floatsOfPairs kvs) → (encPairs ip c kvs).err = none → ScansPushN P (flat (encPairs ip c kvs)) (2 * kvs.length) :=
  fun kvs hs _ he => scans_encPairs ip c hip hp0 kvs hs he

end composite

end Ogorek
