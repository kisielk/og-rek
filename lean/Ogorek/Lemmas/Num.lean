import Ogorek.Decoder

/-! Number formats: decimal text, fixed-width little endian, two's complement. -/
namespace Ogorek

theorem inInt64_iff (i : Int) : inInt64 i = true ↔ -9223372036854775808 ≤ i ∧ i ≤ 9223372036854775807 := by
  unfold inInt64
  rw [Bool.and_eq_true, decide_eq_true_eq, decide_eq_true_eq]
  unfold minInt64 maxInt64
  constructor <;> intro h <;> constructor <;> omega

theorem digitByte_toNat (n : Nat) : (digitByte n).toNat = 48 + n % 10 := by
  unfold digitByte
  have : 48 + n % 10 < 256 := by omega
  simp [UInt8.toNat_ofNat, Nat.mod_eq_of_lt this]

theorem isDigit_digitByte (n : Nat) : isDigit (digitByte n) = true := by
  unfold isDigit
  have h := digitByte_toNat n
  simp only [Bool.and_eq_true, decide_eq_true_eq, UInt8.le_iff_toNat_le, h]
  constructor
  · show (48 : UInt8).toNat ≤ _; simp
  · show _ ≤ (57 : UInt8).toNat; simp; omega

theorem natDigits_all_digit (n : Nat) : (natDigits n).all isDigit = true := by
  induction n using Nat.strongRecOn with
  | _ n ih =>
    rw [natDigits]
    split
    · simp [isDigit_digitByte]
    · simp only [List.all_append, List.all_cons, List.all_nil, Bool.and_true, Bool.and_eq_true]
      exact ⟨ih (n / 10) (by omega), isDigit_digitByte _⟩

theorem natDigits_ne_nil (n : Nat) : natDigits n ≠ [] := by
  rw [natDigits]; split <;> simp

theorem digitsVal_append (xs : Bytes) (d : UInt8) :
    digitsVal (xs ++ [d]) = digitsVal xs * 10 + (d.toNat - 48) := by
  simp [digitsVal, List.foldl_append]

theorem digitsVal_natDigits (n : Nat) : digitsVal (natDigits n) = n := by
  induction n using Nat.strongRecOn with
  | _ n ih =>
    rw [natDigits]
    by_cases h : n < 10
    · rw [dif_pos h]
      simp [digitsVal, digitByte_toNat]; omega
    · rw [dif_neg h, digitsVal_append, ih (n / 10) (by omega), digitByte_toNat, Nat.mod_mod, Nat.add_sub_cancel_left,
        Nat.div_add_mod']

theorem natDigits_head_not_sign (n : Nat) : ∀ b r, natDigits n = b :: r → b ≠ 45 ∧ b ≠ 43 := by
  intro b r h
  have hall := natDigits_all_digit n
  rw [h] at hall
  have hb : isDigit b = true := (Bool.and_eq_true_iff.mp hall).1
  constructor <;> rintro rfl <;> cases hb

theorem parseDigits_natDigits (n : Nat) : parseDigits? (natDigits n) = some n := by
  unfold parseDigits?
  have hne := natDigits_ne_nil n
  simp [hne, natDigits_all_digit, digitsVal_natDigits]

/-- `strconv.ParseInt` / `big.SetString` read back what `%d` wrote. -/
theorem parseDecimal_fmtInt (i : Int) : parseDecimal? (fmtInt i) = some i := by
  unfold fmtInt
  split
  · rename_i hneg
    simp only [parseDecimal?, parseDigits_natDigits]
    simp; omega
  · rename_i hpos
    cases hd : natDigits i.natAbs with
    | nil => exact absurd hd (natDigits_ne_nil _)
    | cons b r =>
      obtain ⟨h1, h2⟩ := natDigits_head_not_sign _ b r hd
      have hp := parseDigits_natDigits i.natAbs
      rw [hd] at hp
      unfold parseDecimal?
      split
      · rename_i heq; simp at heq; exact absurd heq.1 h1
      · rename_i heq; simp at heq; exact absurd heq.1 h2
      · rw [hp]; simp; omega

theorem natDigits_no (n : Nat) (c : UInt8) (hc : isDigit c = false) : c ∉ natDigits n := by
  intro hm
  have := List.all_eq_true.mp (natDigits_all_digit n) c hm
  rw [hc] at this
  exact absurd this (by simp)

theorem fmtInt_no_lf (i : Int) : (10 : UInt8) ∉ fmtInt i := by
  unfold fmtInt
  split
  · simp; exact natDigits_no _ 10 (by decide)
  · exact natDigits_no _ 10 (by decide)

theorem natDigits_small : natDigits 0 = [48] ∧ natDigits 1 = [49] := by
  constructor <;> (rw [natDigits]; simp [digitByte])

/-- The text of an integer is not one of the two spellings of a bool: those read as 0 and 1, which are written `0` and `1`. -/
theorem fmtInt_not_bool (n : Int) : fmtInt n ≠ [48, 48] ∧ fmtInt n ≠ [48, 49] := by
  have h := parseDecimal_fmtInt n
  have h0 : fmtInt 0 ≠ [48, 48] ∧ fmtInt 1 ≠ [48, 49] := by constructor <;> simp [fmtInt, natDigits]
  constructor
  · intro hc
    rw [hc] at h
    cases h
    exact h0.1 hc
  · intro hc
    rw [hc] at h
    cases h
    exact h0.2 hc

theorem parseIntArg_fmtInt (n : Int) :
    parseIntArg (fmtInt n) = .ok (if inInt64 n then .pushInt n else .pushBig n) := by
  unfold parseIntArg
  rw [if_neg (fmtInt_not_bool n).1, if_neg (fmtInt_not_bool n).2, parseDecimal_fmtInt]

theorem natLE_length (k n : Nat) : (natLE k n).length = k := by
  induction k generalizing n with
  | zero => simp [natLE]
  | succ k ih => simp [natLE, ih]

theorem leNat_natLE (k n : Nat) : leNat (natLE k n) = n % 256 ^ k := by
  induction k generalizing n with
  | zero => simp [natLE, leNat, Nat.mod_one]
  | succ k ih =>
    simp only [natLE, leNat, ih]
    rw [UInt8.toNat_ofNat_of_lt' (Nat.mod_lt n (by decide)), Nat.pow_succ, Nat.mul_comm (256 ^ k) 256, Nat.mod_mul]

theorem leNat_natLE_of_lt {k n : Nat} (h : n < 256 ^ k) : leNat (natLE k n) = n := by
  rw [leNat_natLE, Nat.mod_eq_of_lt h]

theorem leNat_append (a b : Bytes) : leNat (a ++ b) = leNat a + 256 ^ a.length * leNat b := by
  induction a with
  | nil => simp [leNat]
  | cons x xs ih =>
    simp only [List.cons_append, leNat, ih, List.length_cons, Nat.pow_succ]
    rw [Nat.mul_add, Nat.add_assoc, Nat.mul_comm (256 ^ xs.length) 256, Nat.mul_assoc]

theorem toSigned_ofSigned_32 (i : Int) (h1 : -(2 : Int) ^ 31 ≤ i) (h2 : i ≤ (2 : Int) ^ 31 - 1) :
    toSigned 32 (leNat (natLE 4 (ofSigned 32 i))) = i := by
  have hlt : ofSigned 32 i < 256 ^ 4 := by unfold ofSigned; omega
  rw [leNat_natLE_of_lt hlt]
  unfold toSigned ofSigned
  split <;> omega

theorem leNat_lt (b : Bytes) : leNat b < 256 ^ b.length := by
  induction b with
  | nil => exact Nat.one_pos
  | cons x xs ih =>
    have hx := x.toNat_lt
    simp only [leNat, List.length_cons, Nat.pow_succ]
    omega

theorem beNat_append_singleton (xs : Bytes) (d : UInt8) : beNat (xs ++ [d]) = beNat xs * 256 + d.toNat := by
  simp [beNat, List.foldl_append]

theorem flip_toNat (b : UInt8) : ((255 : UInt8) - b).toNat = 255 - b.toNat := by
  have := b.toNat_lt
  rw [UInt8.toNat_sub_of_le]
  · rfl
  · rw [UInt8.le_iff_toNat_le]; simp; omega

/-- `decodeLong`'s "flip the bits of the big-endian bytes". -/
theorem flip_natBytesBE (t : Nat) :
    beNat ((natBytesBE t).map fun b => 255 - b) + t + 1 = 256 ^ (natBytesBE t).length := by
  induction t using Nat.strongRecOn with
  | _ t ih =>
    rw [natBytesBE]
    by_cases h : t = 0
    · subst h; rfl
    · rw [dif_neg h]
      have := ih (t / 256) (Nat.div_lt_self (Nat.pos_of_ne_zero h) (by decide))
      simp only [List.map_append, List.map_cons, List.map_nil, beNat_append_singleton, flip_toNat,
        List.length_append, List.length_singleton, Nat.pow_succ]
      have hm : t % 256 < 256 := Nat.mod_lt _ (by decide)
      rw [UInt8.toNat_ofNat_of_lt' hm]
      have hd := Nat.div_add_mod t 256
      omega

theorem natBytesBE_length_eq {t k : Nat} (hk : 0 < k) (h1 : 256 ^ (k - 1) ≤ t) (h2 : t < 256 ^ k) :
    (natBytesBE t).length = k := by
  induction k generalizing t with
  | zero => cases hk
  | succ k ih =>
    have hpos : 0 < 256 ^ k := Nat.pow_pos (by decide)
    rw [Nat.add_sub_cancel] at h1
    rw [natBytesBE, dif_neg (Nat.ne_of_gt (Nat.lt_of_lt_of_le hpos h1)), List.length_append, List.length_singleton]
    cases k with
    | zero => rw [Nat.div_eq_of_lt h2, natBytesBE]; rfl
    | succ k =>
      rw [Nat.pow_succ] at h1 h2
      rw [ih k.succ_pos ((Nat.le_div_iff_mul_le (by decide)).mpr h1) (Nat.div_lt_of_lt_mul (Nat.mul_comm .. ▸ h2))]

/-- Two's-complement little-endian encoding of `n` on exactly `k` bytes (CPython's
    `encode_long` is the minimal such `k`; LONG1 accepts any). -/
def twos (k : Nat) (n : Int) : Bytes :=
  natLE k (if 0 ≤ n then n.toNat else (n + (256 : Int) ^ k).toNat)

theorem getLast_natLE (k m : Nat) :
    (natLE (k + 1) m).getLast? = some (UInt8.ofNat (m / 256 ^ k % 256)) := by
  induction k generalizing m with
  | zero => simp [natLE]
  | succ k ih =>
    rw [natLE]
    have hne : natLE (k + 1) (m / 256) ≠ [] := by
      intro h; have := natLE_length (k + 1) (m / 256); rw [h] at this; simp at this
    rw [List.getLast?_cons_of_ne_nil hne, ih, Nat.div_div_eq_div_mul, Nat.pow_succ, Nat.mul_comm]

theorem decodeLong_natLE (k m : Nat) (hm : m < 256 ^ (k + 1)) :
    decodeLong (natLE (k + 1) m) = if 2 * m < 256 ^ (k + 1) then (m : Int) else (m : Int) - ((256 ^ (k + 1) : Nat) : Int) := by
  have hpos : 0 < 256 ^ k := Nat.pow_pos (by decide)
  have hsucc : 256 ^ (k + 1) = 256 ^ k * 256 := Nat.pow_succ ..
  have hq : m / 256 ^ k < 256 := Nat.div_lt_of_lt_mul (by omega)
  -- the sign bit is the top bit of the last byte
  have htop : decide (UInt8.ofNat (m / 256 ^ k % 256) > 127) = decide (¬ 2 * m < 256 ^ (k + 1)) := by
    apply decide_eq_decide.mpr
    rw [gt_iff_lt, UInt8.lt_iff_toNat_lt, UInt8.toNat_ofNat', Nat.mod_mod, Nat.mod_eq_of_lt hq]
    have : 128 ≤ m / 256 ^ k ↔ 128 * 256 ^ k ≤ m := Nat.le_div_iff_mul_le hpos
    show 127 < m / 256 ^ k ↔ _
    omega
  unfold decodeLong
  split
  · rename_i heq
    have := natLE_length (k + 1) m
    rw [heq] at this
    cases this
  · simp only [leNat_natLE_of_lt hm, getLast_natLE, htop]
    by_cases h : 2 * m < 256 ^ (k + 1)
    · simp [h]
    · have hlen : (natBytesBE (m - 1)).length = k + 1 :=
        natBytesBE_length_eq k.succ_pos (by rw [Nat.add_sub_cancel]; omega) (Nat.lt_of_le_of_lt (Nat.sub_le m 1) hm)
      have hf := flip_natBytesBE (m - 1)
      rw [hlen] at hf
      simp only [h, not_false_eq_true, decide_true, if_true, if_false]
      omega

theorem decodeLong_twos (k : Nat) (n : Int) (hk : 0 < k)
    (h1 : -((256 : Int) ^ k) ≤ 2 * n) (h2 : 2 * n < (256 : Int) ^ k) :
    decodeLong (twos k n) = n := by
  cases k with
  | zero => cases hk
  | succ k =>
    have hpow : (256 : Int) ^ (k + 1) = ((256 ^ (k + 1) : Nat) : Int) := by rw [Int.natCast_pow]; rfl
    unfold twos
    rw [hpow] at h1 h2 ⊢
    generalize hP : 256 ^ (k + 1) = P at h1 h2
    by_cases h0 : 0 ≤ n
    · obtain ⟨m, rfl⟩ := Int.eq_ofNat_of_zero_le h0
      have h : m < P ∧ 2 * m < P := by omega
      subst hP
      rw [if_pos h0, Int.toNat_natCast, decodeLong_natLE _ _ h.1, if_pos h.2]
    · obtain ⟨m, hm⟩ := Int.eq_ofNat_of_zero_le (show 0 ≤ n + P by omega)
      have h : m < P ∧ ¬ 2 * m < P ∧ (m : Int) - P = n := by omega
      subst hP
      rw [if_neg h0, hm, Int.toNat_natCast, decodeLong_natLE _ _ h.1, if_neg h.2.1, h.2.2]
end Ogorek
