import Ogorek.Lemmas.PkForms

/-!
  CPython's unpickler on CPython's pickler: tuples, and the APPEND(S) / SETITEM(S) groups that fill a list / dict
  in place (both are heap objects on the Python machine).
-/
namespace Ogorek

section
variable {c : ECfg}

def PFragsGN (c : ECfg) (p : Nat) : List Bytes → List (List PyVal) → PSt → PSt → Prop
  | [], [], s, s' => s = s'
  | f :: fs, xs :: xss, s, s' => ∃ s1, PPushesGN c p f xs s s1 ∧ PFragsGN c p fs xss s1 s'
  | _, _, _, _ => False

theorem PFragsGN.flatten {p : Nat} : {fs : List Bytes} → {xss : List (List PyVal)} → {s s' : PSt} → PFragsGN c p fs xss s s' →
    PPushesGN c p fs.flatten xss.flatten s s'
  | [], [], s, _, rfl => PPushesGN.nil p s
  | [], _ :: _, _, _, h | _ :: _, [], _, _, h => h.elim
  | _ :: _, _ :: _, _, _, ⟨_, h1, h2⟩ => by simpa using PPushesGN.append h1 (PFragsGN.flatten h2)

theorem PFragsGN.length {p : Nat} : {fs : List Bytes} → {xss : List (List PyVal)} → {s s' : PSt} → PFragsGN c p fs xss s s' →
    fs.length = xss.length
  | [], [], _, _, _ => rfl
  | [], _ :: _, _, _, h | _ :: _, [], _, _, h => h.elim
  | _ :: _, _ :: _, _, _, ⟨_, _, h2⟩ => congrArg (· + 1) (PFragsGN.length h2)

theorem PFragsGN.append_inv {p : Nat} : {f1 f2 : List Bytes} → {x1 x2 : List (List PyVal)} → {s s' : PSt} → f1.length = x1.length →
    PFragsGN c p (f1 ++ f2) (x1 ++ x2) s s' → ∃ sm, PFragsGN c p f1 x1 s sm ∧ PFragsGN c p f2 x2 sm s'
  | [], _, [], _, s, _, _, h => ⟨s, rfl, h⟩
  | [], _, _ :: _, _, _, _, hl, _ | _ :: _, _, [], _, _, _, hl, _ => by simp at hl
  | _ :: _, _, _ :: _, _, _, _, hl, ⟨s1, h1, h2⟩ =>
    have ⟨sm, a, b⟩ := PFragsGN.append_inv (by simpa using hl) h2
    ⟨sm, ⟨s1, h1, a⟩, b⟩

theorem ppushesG_tupleN {p : Nat} (xs : List PyVal) (h1 : 1 ≤ xs.length) (h3 : xs.length ≤ 3) (items : Bytes) {s s' : PSt}
    (hi : PPushesGN c p items xs s s') :
    PPushesG c p (items ++ [if xs.length = 1 then 0x85 else if xs.length = 2 then 0x86 else 0x87]) (.tuple xs) s s' := by
  refine PRunsP.snoc hi (parses_tuple123 xs.length h1 h3) ?_
  rintro st st' _ _ _ ⟨hj, rs, hst, hm, hr, hk⟩
  have hexec : pexec (.tupleN xs.length) st' = .ok { st' with stack := .tuple rs :: st.stack } := pexec_tupleN hst hr.length
  exact ⟨_, hexec, rfl, hj.stable rfl (KeepsBA.refl _), .tuple rs, rfl, hm, ⟨rs, rfl, hr⟩, hk⟩

theorem PPushesGN.marked {p : Nat} {items : Bytes} {xs : List PyVal} {s s' : PSt} (hi : PPushesGN c p items xs s s') :
    PRunsP c (40 :: items) (PMemoInv p s) (fun st st' => PMemoInv p s' st' ∧ ∃ rs, st'.stack = rs.reverse ∧
      st'.metas = st.stack :: st.metas ∧ PRepGList st.heap.length st'.heap rs xs ∧ PKeepsH st st') := by
  refine PRunsP.weaken (PRunsP.mark_then hi) (fun st hj => hj.stable rfl (KeepsBA.refl _)) ?_
  rintro st st' _ _ ⟨hj, rs, hs, hm, hr, hk⟩
  exact ⟨hj, rs, by simpa using hs, hm, hr, hk⟩

theorem ppushesG_tupleMark {p : Nat} (xs : List PyVal) (items : Bytes) {s s' : PSt} (hi : PPushesGN c p items xs s s') :
    PPushesG c p (40 :: items ++ [116]) (.tuple xs) s s' := by
  unfold PPushesG
  refine PRunsP.snoc (PPushesGN.marked hi) (parses_op 116 .tuple rfl parseArg_116) ?_
  rintro st st' _ _ _ ⟨hj, rs, hst, hm, hr, hk⟩
  have hexec : pexec .tuple st' = .ok { st' with stack := .tuple rs :: st.stack, metas := st.metas } := by
    simp [pexec, popMark, hm, hst, ppush, bind, Except.bind, pure, Except.pure]
  exact ⟨_, hexec, rfl, hj.stable rfl (KeepsBA.refl _), .tuple rs, rfl, rfl, ⟨rs, rfl, hr⟩, hk⟩

/-- `id + 1`: the items so far refer only to objects allocated after the list, so they stay valid when it is updated in place. -/
def PListTop (xs0 : List PyVal) (st : PState) : Prop :=
  ∃ id s0 acc, st.stack = .obj id :: s0 ∧ st.heap[id]? = some (.list acc) ∧ PRepGList (id + 1) st.heap acc xs0

/-- What a group of APPEND(S) does: `xs1` appended in place to the list on top of the stack, everything else kept. -/
def PListQ (xs0 xs1 : List PyVal) (st st' : PState) : Prop :=
  ∀ id s0 acc, st.stack = .obj id :: s0 → st.heap[id]? = some (.list acc) → PRepGList (id + 1) st.heap acc xs0 →
    ∃ rs, st'.stack = .obj id :: s0 ∧ st'.metas = st.metas ∧ st'.heap[id]? = some (.list (acc ++ rs)) ∧
      PRepGList (id + 1) st'.heap (acc ++ rs) (xs0 ++ xs1) ∧ st.heap.length ≤ st'.heap.length ∧
      (∀ i, i < st.heap.length → i ≠ id → st'.heap[i]? = st.heap[i]?)

theorem PListQ.nil {xs0 : List PyVal} (st : PState) : PListQ xs0 [] st st :=
  fun _ _ _ hs hh hr => ⟨[], hs, rfl, by simpa using hh, by simpa using hr, Nat.le_refl _, fun _ _ _ => rfl⟩

theorem PListQ.top {xs0 xs1 : List PyVal} {st st' : PState} (q : PListQ xs0 xs1 st st') (ht : PListTop xs0 st) :
    PListTop (xs0 ++ xs1) st' :=
  have ⟨id, s0, acc, hs, hh, hr⟩ := ht
  have ⟨rs, hs', _, hh', hr', _⟩ := q id s0 acc hs hh hr
  ⟨id, s0, acc ++ rs, hs', hh', hr'⟩

theorem PListQ.trans {xs0 xs1 xs2 : List PyVal} {st st1 st2 : PState} (q1 : PListQ xs0 xs1 st st1)
    (q2 : PListQ (xs0 ++ xs1) xs2 st1 st2) : PListQ xs0 (xs1 ++ xs2) st st2 := by
  intro id s0 acc hs hh hr
  obtain ⟨rs1, hs1, hm1, hh1, hr1, hl1, ho1⟩ := q1 id s0 acc hs hh hr
  obtain ⟨rs2, hs2, hm2, hh2, hr2, hl2, ho2⟩ := q2 id s0 (acc ++ rs1) hs1 hh1 hr1
  refine ⟨rs1 ++ rs2, hs2, by rw [hm2, hm1], by simpa [List.append_assoc] using hh2, by simpa [List.append_assoc] using hr2,
    Nat.le_trans hl1 hl2, ?_⟩
  intro i hi hne
  rw [ho2 i (by omega) hne, ho1 i hi hne]

/-- `hba`: every bytearray is still the bytearray it was (`KeepsBA`), since the object replaced is not one. -/
theorem PKeepsH.set {st st1 : PState} (hk : PKeepsH st st1) {id : Nat} {o : PObj} (hh : st.heap[id]? = some o)
    (hba : ∀ d, o ≠ .bytearray d) (o' : PObj) :
    st1.heap[id]? = some o ∧ (st1.heap.set id o')[id]? = some o' ∧ st.heap.length ≤ (st1.heap.set id o').length ∧
      (∀ i, i < st.heap.length → i ≠ id → (st1.heap.set id o')[i]? = st.heap[i]?) ∧ KeepsBA st1.heap (st1.heap.set id o') := by
  have hlt : id < st.heap.length := getElem?_lt_of_some hh
  have hh1 : st1.heap[id]? = some o := (hk.2 id (Nat.zero_le _) hlt).trans hh
  refine ⟨hh1, List.getElem?_set_self (by have := hk.1; omega), by simpa using hk.1, fun i hi hne => ?_,
    KeepsBA.set_list _ id _ fun d e => hba d (Option.some.inj (hh1.symm.trans e))⟩
  rw [List.getElem?_set_ne (Ne.symm hne)]
  exact hk.2 i (Nat.zero_le _) hi

theorem plist_fill {p : Nat} {s' : PSt} {st st1 : PState} {id : Nat} {s0 acc rs xs0 xs1 : List PyVal}
    (hs : st.stack = .obj id :: s0) (hh : st.heap[id]? = some (.list acc)) (hr0 : PRepGList (id + 1) st.heap acc xs0)
    (hj : PMemoInv p s' st1) (hr : PRepGList st.heap.length st1.heap rs xs1) (hk : PKeepsH st st1) :
    st1.heap[id]? = some (.list acc) ∧
      PMemoInv p s' { st1 with stack := .obj id :: s0, metas := st.metas, heap := st1.heap.set id (.list (acc ++ rs)) } ∧
      PListQ xs0 xs1 st { st1 with stack := .obj id :: s0, metas := st.metas, heap := st1.heap.set id (.list (acc ++ rs)) } := by
  obtain ⟨hh1, hset, hlen, hoth, hba⟩ := hk.set hh (fun _ e => by cases e) (.list (acc ++ rs))
  have hlt : id < st.heap.length := getElem?_lt_of_some hh
  have h0 : PRepGList (id + 1) st1.heap acc xs0 :=
    PRepGList.congr (AgreeL.mono hk.2 (Nat.zero_le _)) hk.keepsBA (Nat.le_refl _) acc xs0 hr0
  have h1 : PRepGList (id + 1) st1.heap rs xs1 :=
    PRepGList.congr (AgreeL.refl _ _) (KeepsBA.refl _) (by omega) rs xs1 hr
  refine ⟨hh1, hj.stable rfl hba, fun id' s0' acc' hs' hh' _ => ?_⟩
  rw [hs] at hs'
  cases hs'
  rw [hh] at hh'
  cases hh'
  exact ⟨rs, rfl, rfl, hset, PRepGList.congr (AgreeL.set _ id _ (Nat.lt_succ_self id)) hba (Nat.le_refl _) _ _
    (PRepGList.append h0 h1), hlen, hoth⟩

theorem pruns_listGroup {p : Nat} (xs0 : List PyVal) (g : Grp PyVal) {s s' : PSt}
    (hf : PFragsGN c p (g.items.map (·.1)) (g.items.map fun x => [x.2]) s s') :
    PRunsP c (encGrp 97 101 g) (fun st => PMemoInv p s st ∧ PListTop xs0 st)
      (fun st st' => PMemoInv p s' st' ∧ PListQ xs0 (g.items.map (·.2)) st st') := by
  have hfl := PFragsGN.flatten hf
  rw [flatten_map_singleton] at hfl
  cases g with
  | single x =>
    simp only [Grp.items, List.map_cons, List.map_nil, List.flatten_cons, List.flatten_nil, List.append_nil] at hfl
    refine PRunsP.snoc (PRunsP.weaken hfl (fun _ h => h.1) (fun _ _ _ _ q => q)) (parses_op 97 .append rfl parseArg_97) ?_
    rintro st st' _ ⟨_, id, s0, acc, hs, hh, hr0⟩ _ ⟨hj, rs, hst, hm, hr, hk⟩
    obtain ⟨hh1, hj', hq⟩ := plist_fill hs hh hr0 hj hr hk
    obtain ⟨r, rfl⟩ := List.length_eq_one_iff.mp hr.length
    have hst' : st'.stack = r :: .obj id :: s0 := by rw [hst, hs]; rfl
    have hexec : pexec .append st' =
        .ok { st' with stack := .obj id :: s0, metas := st.metas, heap := st'.heap.set id (.list (acc ++ [r])) } := by
      simp [pexec, hst', hh1, ← hm]
    exact ⟨_, hexec, rfl, hj', hq⟩
  | multi xs =>
    simp only [Grp.items] at hfl ⊢
    show PRunsP c ((40 :: (xs.map (·.1)).flatten) ++ [101]) _ _
    refine PRunsP.snoc (PRunsP.weaken (PPushesGN.marked hfl) (fun _ h => h.1) (fun _ _ _ _ q => q)) (parses_op 101 .appends rfl parseArg_101) ?_
    rintro st st' _ ⟨_, id, s0, acc, hs, hh, hr0⟩ _ ⟨hj, rs, hst, hm, hr, hk⟩
    obtain ⟨hh1, hj', hq⟩ := plist_fill hs hh hr0 hj hr hk
    have hexec : pexec .appends st' =
        .ok { st' with stack := .obj id :: s0, metas := st.metas, heap := st'.heap.set id (.list (acc ++ rs)) } := by
      simp [pexec, popMark, hm, hst, hs, hh1, bind, Except.bind, pure, Except.pure]
    exact ⟨_, hexec, rfl, hj', hq⟩

theorem pruns_listGroups {p : Nat} : (gs : List (Grp PyVal)) → (xs0 : List PyVal) → {s s' : PSt} →
    PFragsGN c p ((grpItems gs).map (·.1)) ((grpItems gs).map fun x => [x.2]) s s' →
    PRunsP c (encGrps 97 101 gs) (fun st => PMemoInv p s st ∧ PListTop xs0 st)
      (fun st st' => PMemoInv p s' st' ∧ PListQ xs0 ((grpItems gs).map (·.2)) st st')
  | [], xs0, s, _, hf => by
    cases (hf : s = _)
    exact PRunsP.nil fun st hp => ⟨hp.1, PListQ.nil st⟩
  | g :: gs, xs0, s, s', hf => by
    simp only [grpItems_cons, List.map_append] at hf ⊢
    obtain ⟨sm, h1, h2⟩ := PFragsGN.append_inv (by simp) hf
    rw [encGrps_cons]
    exact PRunsP.weaken (PRunsP.seq (pruns_listGroup xs0 g h1) (pruns_listGroups gs _ h2) fun _ _ hp _ q => ⟨q.1, q.2.top hp.2⟩)
      (fun _ h => h) fun _ _ _ _ ⟨_, _, q1, q2⟩ => ⟨q2.1, q1.2.trans q2.2⟩

theorem pyDictSet_repG {n : Nat} {h : List PObj} (k rv v : PyVal) (hv : PRepG n h rv v) : {es acc : List (PyVal × PyVal)} → PRepGEntries n h es acc →
    PRepGEntries n h (pyDictSet es k rv) (pyDictSet acc k v)
  | [], [], _ => ⟨rfl, hv, trivial⟩
  | [], _ :: _, hr | _ :: _, [], hr => hr.elim
  | (a, b) :: es, (_, b') :: acc, ⟨rfl, hb, hrest⟩ => by
    unfold pyDictSet
    split
    · exact ⟨rfl, hv, hrest⟩
    · exact ⟨rfl, hb, pyDictSet_repG k rv v hv hrest⟩

/-- `pyAssign` refuses a key holding a NaN once the table has a key holding one (`hguard`), hence at most one such key
    among those of `acc` and `kvs`. -/
theorem pyAssignAll_repG {n : Nat} {h : List PObj} : (kvs : List (PyVal × PyVal)) → (rs : List PyVal) → (es acc : List (PyVal × PyVal)) →
    PRepGList n h rs (flatP kvs) → PRepGEntries n h es acc → (kvs.all fun e => pyHashable e.1) = true → nanKeys acc + nanKeys kvs ≤ 1 →
    ∃ es', pyAssignAll es rs = .ok es' ∧ PRepGEntries n h es' (kvs.foldl (fun a e => pyDictSet a e.1 e.2) acc)
  | [], [], es, _, _, he, _, _ => ⟨es, rfl, he⟩
  | [], _ :: _, _, _, hl, _, _, _ | _ :: _, [], _, _, hl, _, _, _ => hl.elim
  | _ :: _, [_], _, _, ⟨_, hl⟩, _, _, _ => hl.elim
  | (k, v) :: kvs, rk :: rv :: rs', es, acc, ⟨hk, hv, hrest⟩, he, hh, hn => by
    simp only [List.all_cons, Bool.and_eq_true] at hh
    cases PRep.eq_of_hashable k hh.1 (PRepG.toRep rk k hk)
    rw [nanKeys_cons] at hn
    have hguard : (pyHasNaN k && es.any (fun e => pyHasNaN e.1)) = false := by
      by_cases hnan : pyHasNaN k = true
      · simp only [hnan, if_true] at hn
        rw [(he.toRep _ _).any_nan, any_nan_false_of_zero acc (by omega)]; simp
      · simp only [Bool.not_eq_true] at hnan; simp [hnan]
    have hn' : nanKeys (pyDictSet acc k v) + nanKeys kvs ≤ 1 := by
      have := nanKeys_set acc k v
      simp only [] at hn
      omega
    obtain ⟨es', e1, e2⟩ := pyAssignAll_repG kvs rs' (pyDictSet es k rv) (pyDictSet acc k v) hrest (pyDictSet_repG k rv v hv he) hh.2 hn'
    exact ⟨es', by simp [pyAssignAll, pyAssign, hh.1, hguard, e1], by simpa using e2⟩

theorem nanKeys_fold : (kvs acc : List (PyVal × PyVal)) →
    nanKeys (kvs.foldl (fun a e => pyDictSet a e.1 e.2) acc) ≤ nanKeys acc + nanKeys kvs
  | [], acc => by simp [nanKeys]
  | (k, v) :: kvs, acc => by
    simp only [List.foldl_cons]
    have h1 := nanKeys_fold kvs (pyDictSet acc k v)
    have h2 := nanKeys_set acc k v
    rw [nanKeys_cons]
    simp only at h1 h2 ⊢
    omega

theorem nanKeys_append (a b : List (PyVal × PyVal)) : nanKeys (a ++ b) = nanKeys a + nanKeys b := by
  simp [nanKeys, List.filter_append]

def PDictTop (acc : List (PyVal × PyVal)) (st : PState) : Prop :=
  ∃ id s0 es, st.stack = .obj id :: s0 ∧ st.heap[id]? = some (.dict es) ∧ PRepGEntries (id + 1) st.heap es acc

/-- What a group of SETITEM(S) does: the pairs `kvs` are assigned in place to the dict on top of the stack. -/
def PDictQ (acc kvs : List (PyVal × PyVal)) (st st' : PState) : Prop :=
  ∀ id s0 es, st.stack = .obj id :: s0 → st.heap[id]? = some (.dict es) → PRepGEntries (id + 1) st.heap es acc →
    ∃ es', st'.stack = .obj id :: s0 ∧ st'.metas = st.metas ∧ st'.heap[id]? = some (.dict es') ∧
      PRepGEntries (id + 1) st'.heap es' (kvs.foldl (fun a e => pyDictSet a e.1 e.2) acc) ∧ st.heap.length ≤ st'.heap.length ∧
      (∀ i, i < st.heap.length → i ≠ id → st'.heap[i]? = st.heap[i]?)

theorem PDictQ.nil {acc : List (PyVal × PyVal)} (st : PState) : PDictQ acc [] st st :=
  fun _ _ es hs hh hr => ⟨es, hs, rfl, hh, hr, Nat.le_refl _, fun _ _ _ => rfl⟩

theorem PDictQ.top {acc kvs : List (PyVal × PyVal)} {st st' : PState} (q : PDictQ acc kvs st st') (ht : PDictTop acc st) :
    PDictTop (kvs.foldl (fun a e => pyDictSet a e.1 e.2) acc) st' :=
  have ⟨id, s0, es, hs, hh, hr⟩ := ht
  have ⟨es', hs', _, hh', hr', _⟩ := q id s0 es hs hh hr
  ⟨id, s0, es', hs', hh', hr'⟩

theorem PDictQ.trans {acc kvs1 kvs2 : List (PyVal × PyVal)} {st st1 st2 : PState} (q1 : PDictQ acc kvs1 st st1)
    (q2 : PDictQ (kvs1.foldl (fun a e => pyDictSet a e.1 e.2) acc) kvs2 st1 st2) : PDictQ acc (kvs1 ++ kvs2) st st2 := by
  intro id s0 es hs hh hr
  obtain ⟨es1, hs1, hm1, hh1, hr1, hl1, ho1⟩ := q1 id s0 es hs hh hr
  obtain ⟨es2, hs2, hm2, hh2, hr2, hl2, ho2⟩ := q2 id s0 es1 hs1 hh1 hr1
  refine ⟨es2, hs2, by rw [hm2, hm1], hh2, by simpa [List.foldl_append] using hr2, Nat.le_trans hl1 hl2, ?_⟩
  intro i hi hne
  rw [ho2 i (by omega) hne, ho1 i hi hne]

theorem flatten_map_pairP : (l : List (Bytes × (PyVal × PyVal))) →
    (l.map fun x => [x.2.1, x.2.2]).flatten = flatP (l.map (·.2))
  | [] => rfl
  | x :: l => by simp [flatP, flatten_map_pairP l]

theorem pdict_fill {p : Nat} {s' : PSt} {st st1 : PState} {id : Nat} {s0 rs : List PyVal} {es acc kvs : List (PyVal × PyVal)}
    (hs : st.stack = .obj id :: s0) (hh : st.heap[id]? = some (.dict es)) (hr0 : PRepGEntries (id + 1) st.heap es acc)
    (hj : PMemoInv p s' st1) (hr : PRepGList st.heap.length st1.heap rs (flatP kvs)) (hk : PKeepsH st st1)
    (hhash : (kvs.all fun e => pyHashable e.1) = true) (hnan : nanKeys acc + nanKeys kvs ≤ 1) :
    ∃ es', st1.heap[id]? = some (.dict es) ∧ pyAssignAll es rs = .ok es' ∧
      PMemoInv p s' { st1 with stack := .obj id :: s0, metas := st.metas, heap := st1.heap.set id (.dict es') } ∧
      PDictQ acc kvs st { st1 with stack := .obj id :: s0, metas := st.metas, heap := st1.heap.set id (.dict es') } := by
  have hlt : id < st.heap.length := getElem?_lt_of_some hh
  have h0 : PRepGEntries (id + 1) st1.heap es acc :=
    PRepGEntries.congr (AgreeL.mono hk.2 (Nat.zero_le _)) hk.keepsBA (Nat.le_refl _) es acc hr0
  have h1 : PRepGList (id + 1) st1.heap rs (flatP kvs) :=
    PRepGList.congr (AgreeL.refl _ _) (KeepsBA.refl _) (by omega) rs _ hr
  obtain ⟨es', ha, hre⟩ := pyAssignAll_repG kvs rs es acc h1 h0 hhash hnan
  obtain ⟨hh1, hset, hlen, hoth, hba⟩ := hk.set hh (fun _ e => by cases e) (.dict es')
  refine ⟨es', hh1, ha, hj.stable rfl hba, fun id' s0' es0' hs' hh' _ => ?_⟩
  rw [hs] at hs'
  cases hs'
  rw [hh] at hh'
  cases hh'
  exact ⟨es', rfl, rfl, hset, PRepGEntries.congr (AgreeL.set _ id _ (Nat.lt_succ_self id)) hba (Nat.le_refl _) _ _ hre,
    hlen, hoth⟩

theorem pruns_dictGroup {p : Nat} (acc : List (PyVal × PyVal)) (g : Grp (PyVal × PyVal)) {s s' : PSt}
    (hf : PFragsGN c p (g.items.map (·.1)) (g.items.map fun x => [x.2.1, x.2.2]) s s')
    (hhash : ((g.items.map (·.2)).all fun e => pyHashable e.1) = true) (hnan : nanKeys acc + nanKeys (g.items.map (·.2)) ≤ 1) :
    PRunsP c (encGrp 115 117 g) (fun st => PMemoInv p s st ∧ PDictTop acc st)
      (fun st st' => PMemoInv p s' st' ∧ PDictQ acc (g.items.map (·.2)) st st') := by
  have hfl := PFragsGN.flatten hf
  rw [flatten_map_pairP] at hfl
  cases g with
  | single x =>
    simp only [Grp.items, List.map_cons, List.map_nil, List.flatten_cons, List.flatten_nil, List.append_nil] at hfl hhash hnan
    refine PRunsP.snoc (PRunsP.weaken hfl (fun _ h => h.1) (fun _ _ _ _ q => q)) (parses_op 115 .setitem rfl parseArg_115) ?_
    rintro st st' _ ⟨_, id, s0, es, hs, hh, hr0⟩ _ ⟨hj, rs, hst, hm, hr, hk⟩
    obtain ⟨es', hh1, hass, hj', hq⟩ := pdict_fill hs hh hr0 hj hr hk hhash hnan
    obtain ⟨rk, rs, rfl⟩ := List.exists_cons_of_length_eq_add_one (n := 1) hr.length
    obtain ⟨rv, rfl⟩ := List.length_eq_one_iff.mp (Nat.succ.inj hr.length)
    have hst' : st'.stack = rv :: rk :: .obj id :: s0 := by rw [hst, hs]; rfl
    have hta : pyAssign es rk rv = .ok es' := by
      simp only [pyAssignAll] at hass
      cases ht : pyAssign es rk rv with
      | error e => rw [ht] at hass; simp at hass
      | ok e1 => rw [ht] at hass; simpa [pyAssignAll] using hass
    have hexec : pexec .setitem st' =
        .ok { st' with stack := .obj id :: s0, metas := st.metas, heap := st'.heap.set id (.dict es') } := by
      simp [pexec, hst', hh1, hta, ← hm, bind, Except.bind, pure, Except.pure]
    exact ⟨_, hexec, rfl, hj', hq⟩
  | multi xs =>
    simp only [Grp.items] at hfl hhash hnan ⊢
    show PRunsP c ((40 :: (xs.map (·.1)).flatten) ++ [117]) _ _
    refine PRunsP.snoc (PRunsP.weaken (PPushesGN.marked hfl) (fun _ h => h.1) (fun _ _ _ _ q => q)) (parses_op 117 .setitems rfl parseArg_117) ?_
    rintro st st' _ ⟨_, id, s0, es, hs, hh, hr0⟩ _ ⟨hj, rs, hst, hm, hr, hk⟩
    obtain ⟨es', hh1, hass, hj', hq⟩ := pdict_fill hs hh hr0 hj hr hk hhash hnan
    have hexec : pexec .setitems st' =
        .ok { st' with stack := .obj id :: s0, metas := st.metas, heap := st'.heap.set id (.dict es') } := by
      simp [pexec, popMark, hm, hst, hs, hh1, hass, bind, Except.bind, pure, Except.pure]
    exact ⟨_, hexec, rfl, hj', hq⟩

theorem pruns_dictGroups {p : Nat} : (gs : List (Grp (PyVal × PyVal))) → (acc : List (PyVal × PyVal)) → {s s' : PSt} →
    PFragsGN c p ((grpItems gs).map (·.1)) ((grpItems gs).map fun x => [x.2.1, x.2.2]) s s' →
    (((grpItems gs).map (·.2)).all fun e => pyHashable e.1) = true → nanKeys acc + nanKeys ((grpItems gs).map (·.2)) ≤ 1 →
    PRunsP c (encGrps 115 117 gs) (fun st => PMemoInv p s st ∧ PDictTop acc st)
      (fun st st' => PMemoInv p s' st' ∧ PDictQ acc ((grpItems gs).map (·.2)) st st')
  | [], acc, s, _, hf, _, _ => by
    cases (hf : s = _)
    exact PRunsP.nil fun st hp => ⟨hp.1, PDictQ.nil st⟩
  | g :: gs, acc, s, s', hf, hhash, hnan => by
    simp only [grpItems_cons, List.map_append, List.all_append, Bool.and_eq_true] at hf hhash hnan ⊢
    rw [nanKeys_append] at hnan
    obtain ⟨sm, h1, h2⟩ := PFragsGN.append_inv (by simp) hf
    rw [encGrps_cons]
    have hn2 : nanKeys ((g.items.map (·.2)).foldl (fun a e => pyDictSet a e.1 e.2) acc) + nanKeys ((grpItems gs).map (·.2)) ≤ 1 := by
      have := nanKeys_fold (g.items.map (·.2)) acc
      omega
    exact PRunsP.weaken (PRunsP.seq (pruns_dictGroup acc g h1 hhash.1 (by omega)) (pruns_dictGroups gs _ h2 hhash.2 hn2)
        fun _ _ hp _ q => ⟨q.1, q.2.top hp.2⟩)
      (fun _ h => h) fun _ _ _ _ ⟨_, _, q1, q2⟩ => ⟨q2.1, q1.2.trans q2.2⟩

end

end Ogorek
