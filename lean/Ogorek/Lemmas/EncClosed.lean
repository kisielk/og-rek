import Ogorek.Encoder

namespace Ogorek

/-- A predicate on the encoder's outcome that sequencing preserves and that admits every write and the
    two errors the scalar encoders stop with (invalid UTF-8 in a protocol-0 unicode line; a class name that GLOBAL
    cannot carry).  "No panic" (C15) and "only the documented errors" (C05) are the two instances. -/
structure EncClosed (Q : Out → Prop) : Prop where
  seq : ∀ {a b}, Q a → Q b → Q (a +> b)
  emit : ∀ bs, Q (emit bs)
  utf8 : Q (failWith .p0Utf8)
  glob : Q (failWith .p0123Global)

theorem ite_out {Q : Out → Prop} {p : Prop} [Decidable p] {a b : Out} (ha : Q a) (hb : Q b) : Q (if p then a else b) := by
  split <;> assumption

section
variable {Q : Out → Prop} (h : EncClosed Q) (ip : IsPrint) (c : ECfg)
include h

theorem EncClosed.bool (b : Bool) : Q (encodeBool c b) := ite_out (h.emit _) (h.emit _)
theorem EncClosed.int (i : Int) : Q (encodeInt c i) :=
  ite_out (h.emit _) (ite_out (h.emit _) (ite_out (h.emit _) (h.emit _)))
theorem EncClosed.uint (u : Nat) : Q (encodeUint c u) := ite_out (h.int _ _) (h.emit _)
theorem EncClosed.float (f : F64) : Q (encodeFloat c f) := ite_out (h.emit _) (h.emit _)
theorem EncClosed.byteString (s : Bytes) : Q (encodeByteString ip c s) :=
  ite_out (h.seq (ite_out (h.emit _) (h.emit _)) (h.emit _)) (h.emit _)
theorem EncClosed.unicode (s : Bytes) : Q (encodeUnicode c s) := by
  refine ite_out (h.seq (ite_out (h.emit _) (h.emit _)) (h.emit _)) ?_
  split
  · exact h.emit _
  · exact h.utf8
theorem EncClosed.string (s : Bytes) : Q (encodeString ip c s) := ite_out (h.unicode _ _) (h.byteString _ _ _)
theorem EncClosed.cls (m n : Bytes) : Q (encodeClass ip c m n) :=
  ite_out (h.seq (h.seq (h.string _ _ _) (h.string _ _ _)) (h.emit _)) (ite_out h.glob (h.emit _))
theorem EncClosed.tupleOf (l : Nat) {items : Out} (hi : Q items) : Q (encodeTupleOf c l items) :=
  ite_out (h.seq hi (h.emit _)) (ite_out (h.emit _) (h.seq (h.seq (h.emit _) hi) (h.emit _)))
theorem EncClosed.bytes (s : Bytes) : Q (encodeBytes ip c s) :=
  ite_out (h.seq (ite_out (h.emit _) (h.emit _)) (h.emit _))
    (h.seq (h.seq (h.cls _ _ _ _) (h.tupleOf _ _ (h.seq (h.unicode _ _) (h.byteString _ _ _)))) (h.emit _))
theorem EncClosed.byteArray (s : Bytes) : Q (encodeByteArray ip c s) :=
  ite_out (h.seq (h.emit _) (h.emit _)) (h.seq (h.seq (h.cls _ _ _ _) (h.tupleOf _ _ (h.bytes _ _ _))) (h.emit _))
end

end Ogorek
