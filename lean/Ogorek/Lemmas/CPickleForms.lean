import Ogorek.Lemmas.CPickleRun

/-!
  Decoding what CPython's pickler writes (C02): what it means that a fragment pushes an object, and the memo PUT
  that follows it.

  Every statement carries an invariant of the decoder's memo, indexed by the pickler's own state
  (`I : σ → DState → Prop`, depending on the memo only: `MemoOnly`).  With `σ = Unit` and the trivial
  invariant this is the tree-shaped case (nothing is ever fetched from the memo); with the pickler's memo
  table as index it says what every GET will find.
-/
namespace Ogorek

def KeepsH (st st' : DState) : Prop := st.heap.length ≤ st'.heap.length ∧ AgreeFrom 0 st.heap st'.heap

theorem KeepsH.refl (st : DState) : KeepsH st st := ⟨Nat.le_refl _, AgreeL.refl _ _⟩

theorem KeepsH.trans {a b c : DState} (h1 : KeepsH a b) (h2 : KeepsH b c) : KeepsH a c :=
  ⟨Nat.le_trans h1.1 h2.1, AgreeL.trans h1.2 h2.2 h1.1⟩

theorem KeepsH.of_eq {st st' : DState} (e : st'.heap = st.heap) : KeepsH st st' := by
  unfold KeepsH; rw [e]; exact ⟨Nat.le_refl _, AgreeL.refl _ _⟩

theorem RepGList.append_runs {cfg : Cfg} {st st1 st2 : DState} {rs1 rs2 : List GoVal} {xs1 xs2 : List PyObj}
    (hr1 : RepGList cfg st.heap.length st1.heap rs1 xs1) (hk1 : KeepsH st st1)
    (hr2 : RepGList cfg st1.heap.length st2.heap rs2 xs2) (hk2 : KeepsH st1 st2) :
    RepGList cfg st.heap.length st2.heap (rs1 ++ rs2) (xs1 ++ xs2) :=
  RepGList.append (RepGList.congr cfg (AgreeL.mono hk2.2 (Nat.zero_le _)) (Nat.le_refl _) rs1 xs1 hr1)
    (RepGList.congr cfg (AgreeL.refl _ _) hk1.1 rs2 xs2 hr2)

def MemoOnly {σ : Type} (I : σ → DState → Prop) : Prop := ∀ s st st', st'.memo = st.memo → I s st → I s st'

theorem MemoOnly.trivial : MemoOnly (fun (_ : Unit) (_ : DState) => True) := fun _ _ _ _ _ => True.intro

section
variable {mc : MCfg} {hook : Hook} {c : ECfg} {σ : Type} {I : σ → DState → Prop}

/-- The fragment pushes values representing the objects `xs` (bottom to top), referring only to heap objects
    it allocated itself (from `st.heap.length` on), leaves the old heap alone, and takes the memo invariant from `s` to `s'`. -/
def PushesGN (mc : MCfg) (hook : Hook) (c : ECfg) (I : σ → DState → Prop) (bs : Bytes) (xs : List PyObj) (s s' : σ) : Prop :=
  RunsP mc hook c bs (I s) (fun st st' => I s' st' ∧ ∃ rs, st'.stack = rs.reverse ++ st.stack ∧
    RepGList mc.cfg st.heap.length st'.heap rs xs ∧ KeepsH st st')

def PushesG (mc : MCfg) (hook : Hook) (c : ECfg) (I : σ → DState → Prop) (bs : Bytes) (v : PyObj) (s s' : σ) : Prop :=
  RunsP mc hook c bs (I s) (fun st st' => I s' st' ∧ ∃ r, st'.stack = r :: st.stack ∧
    RepG mc.cfg st.heap.length st'.heap r v ∧ KeepsH st st')

theorem PushesG.toN {bs : Bytes} {v : PyObj} {s s' : σ} (h : PushesG mc hook c I bs v s s') : PushesGN mc hook c I bs [v] s s' := by
  refine RunsP.weaken h (fun _ h => h) ?_
  rintro st st' _ _ ⟨hj, r, hs, hr, hk⟩
  exact ⟨hj, [r], by simpa using hs, by simp [RepGList, hr], hk⟩

theorem PushesGN.nil (s : σ) : PushesGN mc hook c I [] [] s s :=
  RunsP.nil fun st hj => ⟨hj, [], by simp, trivial, KeepsH.refl st⟩

theorem PushesGN.append {b1 b2 : Bytes} {xs1 xs2 : List PyObj} {s s1 s2 : σ}
    (h1 : PushesGN mc hook c I b1 xs1 s s1) (h2 : PushesGN mc hook c I b2 xs2 s1 s2) :
    PushesGN mc hook c I (b1 ++ b2) (xs1 ++ xs2) s s2 := by
  refine RunsP.weaken (RunsP.seq h1 h2 (fun _ _ _ _ q => q.1)) (fun _ h => h) ?_
  rintro st st2 _ _ ⟨st1, _, ⟨_, rs1, hs1, hr1, hk1⟩, ⟨hj2, rs2, hs2, hr2, hk2⟩⟩
  exact ⟨hj2, rs1 ++ rs2, by simp [hs2, hs1], hr1.append_runs hk1 hr2 hk2, hk1.trans hk2⟩

def FragsGN (mc : MCfg) (hook : Hook) (c : ECfg) (I : σ → DState → Prop) : List Bytes → List (List PyObj) → σ → σ → Prop
  | [], [], s, s' => s = s'
  | f :: fs, xs :: xss, s, s' => ∃ s1, PushesGN mc hook c I f xs s s1 ∧ FragsGN mc hook c I fs xss s1 s'
  | _, _, _, _ => False

theorem FragsGN.flatten : {fs : List Bytes} → {xss : List (List PyObj)} → {s s' : σ} → FragsGN mc hook c I fs xss s s' →
    PushesGN mc hook c I fs.flatten xss.flatten s s'
  | [], [], s, _, rfl => PushesGN.nil s
  | [], _ :: _, _, _, h | _ :: _, [], _, _, h => h.elim
  | _ :: _, _ :: _, _, _, ⟨_, h1, h2⟩ => by simpa using PushesGN.append h1 (FragsGN.flatten h2)

theorem FragsGN.split : (k : Nat) → {fs : List Bytes} → {xss : List (List PyObj)} → {s s' : σ} → FragsGN mc hook c I fs xss s s' →
    ∃ sm, FragsGN mc hook c I (fs.take k) (xss.take k) s sm ∧ FragsGN mc hook c I (fs.drop k) (xss.drop k) sm s'
  | 0, _, _, s, _, h => ⟨s, rfl, h⟩
  | _ + 1, [], [], s, _, h => ⟨s, rfl, h⟩
  | _ + 1, [], _ :: _, _, _, h | _ + 1, _ :: _, [], _, _, h => h.elim
  | k + 1, _ :: _, _ :: _, _, _, ⟨s1, h1, h2⟩ =>
    have ⟨sm, a, b⟩ := FragsGN.split k h2
    ⟨sm, ⟨s1, h1, a⟩, b⟩

theorem FragsGN.length : {fs : List Bytes} → {xss : List (List PyObj)} → {s s' : σ} → FragsGN mc hook c I fs xss s s' →
    fs.length = xss.length
  | [], [], _, _, _ => rfl
  | [], _ :: _, _, _, h | _ :: _, [], _, _, h => h.elim
  | _ :: _, _ :: _, _, _, ⟨_, _, h2⟩ => congrArg (· + 1) (FragsGN.length h2)

theorem FragsGN.append_inv : {f1 f2 : List Bytes} → {x1 x2 : List (List PyObj)} → {s s' : σ} → f1.length = x1.length →
    FragsGN mc hook c I (f1 ++ f2) (x1 ++ x2) s s' → ∃ sm, FragsGN mc hook c I f1 x1 s sm ∧ FragsGN mc hook c I f2 x2 sm s'
  | [], _, [], _, s, _, _, h => ⟨s, rfl, h⟩
  | [], _, _ :: _, _, _, _, hl, _ | _ :: _, _, [], _, _, _, hl, _ => by simp at hl
  | _ :: _, _, _ :: _, _, _, _, hl, ⟨s1, h1, h2⟩ =>
    have ⟨sm, a, b⟩ := FragsGN.append_inv (by simpa using hl) h2
    ⟨sm, ⟨s1, h1, a⟩, b⟩

def TopUser (st : DState) : Prop := ∃ v s, st.stack = v :: s ∧ isMark v = false

/-- What a `memo_put` between the pickler states `s` and `s'` has to do: succeed on any value satisfying `v`, touch
    only the memo, and take the invariant along. -/
def PutOK (mc : MCfg) (hook : Hook) (c : ECfg) (I : σ → DState → Prop) (bs : Bytes) (v : GoVal → Prop) (s s' : σ) : Prop :=
  RunsP mc hook c bs (fun st => I s st ∧ ∃ r rest, st.stack = r :: rest ∧ isMark r = false ∧ v r)
    (fun st st' => I s' st' ∧ st'.stack = st.stack ∧ st'.heap = st.heap)

/-- The key is the decimal index when that is the size of the memo (MEMOIZE numbers by it) and below 2^32
    (LONG_BINPUT has four bytes). -/
theorem runs_put_at (p n : Nat) :
    RunsP mc hook c (cpPut p n) TopUser (fun st st' => ∃ key r rest, st.stack = r :: rest ∧ st' = memoPut st key r ∧
      (n < 2 ^ 32 → st.memo.length = n → key = natDigits n)) := by
  obtain ⟨key, hp, hk⟩ := parses_cpPut p n
  refine RunsP.one hp ?_
  rintro pos st _ ⟨v, s, hs, hm⟩
  split
  · refine ⟨memoPut st (memoKey st.memo.length) v, ?_, rfl, _, v, s, hs, rfl, fun _ hl => by rw [hl]; rfl⟩
    simp [exec, hs, userOK_of_not_mark hm, bind, Except.bind, pure, Except.pure]
  · exact ⟨memoPut st key v, by simp [exec, hs, userOK_of_not_mark hm, bind, Except.bind, pure, Except.pure], rfl, key, v, s, hs, rfl, fun h _ => hk h⟩

theorem runs_put (p n : Nat) :
    RunsP mc hook c (cpPut p n) TopUser (fun st st' => st'.stack = st.stack ∧ st'.heap = st.heap) := by
  refine RunsP.weaken (runs_put_at p n) (fun _ h => h) ?_
  rintro st st' _ _ ⟨key, r, rest, _, e, _⟩
  subst e
  exact ⟨rfl, rfl⟩

theorem PutOK.trivial (p n : Nat) (v : GoVal → Prop) :
    PutOK mc hook c (fun (_ : Unit) (_ : DState) => True) (cpPut p n) v () () := by
  refine RunsP.weaken (runs_put p n) ?_ ?_
  · intro st ⟨_, r, rest, hs, hm, _⟩
    exact ⟨r, rest, hs, hm⟩
  · intro st st' _ _ q
    exact ⟨True.intro, q⟩

theorem PushesG.put {bs pb : Bytes} {v : PyObj} {s s1 s2 : σ} {vp : GoVal → Prop} (h : PushesG mc hook c I bs v s s1)
    (hput : PutOK mc hook c I pb vp s1 s2) (hv : ∀ n hp r, RepG mc.cfg n hp r v → vp r) :
    PushesG mc hook c I (bs ++ pb) v s s2 := by
  refine RunsP.weaken (RunsP.seq h hput ?_) (fun _ h => h) ?_
  · intro st st1 _ _ ⟨hj, r, hs, hr, _⟩
    exact ⟨hj, r, st.stack, hs, hr.not_mark, hv _ _ _ hr⟩
  · intro st st2 _ _ ⟨st1, _, ⟨_, r, hs, hr, hk⟩, hj2, hs2, hh2⟩
    refine ⟨hj2, r, by rw [hs2, hs], by rw [hh2]; exact hr, hk.trans (KeepsH.of_eq hh2)⟩

/-- The fragment pushes exactly the value `r`: a constant, nothing in the heap. -/
def PushesV (mc : MCfg) (hook : Hook) (c : ECfg) (I : σ → DState → Prop) (bs : Bytes) (r : GoVal) (s s' : σ) : Prop :=
  RunsP mc hook c bs (I s) (fun st st' => I s' st' ∧ st'.stack = r :: st.stack ∧ st'.heap = st.heap)

theorem PushesV.one (hI : MemoOnly I) (s : σ) {bs : Bytes} {i : Insn} {r : GoVal} (hp : Parses bs [i])
    (he : ∀ pos st, exec mc hook i pos st = .ok (push st r)) : PushesV mc hook c I bs r s s :=
  RunsP.one hp fun pos st _ hj => ⟨push st r, he pos st, rfl, hI s st _ rfl hj, rfl, rfl⟩

theorem PushesV.toG {bs : Bytes} {r : GoVal} {v : PyObj} {s s' : σ} (h : PushesV mc hook c I bs r s s')
    (hr : ∀ n hp, RepG mc.cfg n hp r v) : PushesG mc hook c I bs v s s' := by
  refine RunsP.weaken h (fun _ h => h) ?_
  rintro st st' _ _ ⟨hj, hs, hh⟩
  exact ⟨hj, r, hs, hr _ _, KeepsH.of_eq hh⟩

theorem PushesV.put {bs pb : Bytes} {r : GoVal} {s s1 s2 : σ} {vp : GoVal → Prop} (h : PushesV mc hook c I bs r s s1)
    (hput : PutOK mc hook c I pb vp s1 s2) (hm : isMark r = false) (hv : vp r) :
    PushesV mc hook c I (bs ++ pb) r s s2 := by
  refine RunsP.weaken (RunsP.seq h hput ?_) (fun _ h => h) ?_
  · intro st st1 _ _ ⟨hj, hs, _⟩
    exact ⟨hj, r, st.stack, hs, hm, hv⟩
  · intro st st2 _ _ ⟨st1, _, ⟨_, hs, hh⟩, hj2, hs2, hh2⟩
    exact ⟨hj2, by rw [hs2, hs], by rw [hh2, hh]⟩

theorem RunsP.mark_then {b : Bytes} {P : DState → Prop} {Q : DState → DState → Prop} (h : RunsP mc hook c b P Q) :
    RunsP mc hook c (40 :: b) (fun st => P (push st .mark)) (fun st st' => Q (push st .mark) st') := by
  obtain ⟨is, hp, hr⟩ := h
  refine ⟨.mark :: is, ?_, fun insn st hpo hpre => ?_⟩
  · have := Parses.append (parses_op 40 .mark rfl parseArg_40) hp
    simpa using this
  · obtain ⟨st', e, f, q⟩ := hr (insn + 1) (push st .mark) (hpo.of_proto rfl) hpre
    exact ⟨st', by simp [runFrom, exec, e], f, q⟩

theorem RunsP.snoc {b1 b2 : Bytes} {i : Insn} {P : DState → Prop} {Q1 Q : DState → DState → Prop}
    (h1 : RunsP mc hook c b1 P Q1) (hp : Parses b2 [i])
    (he : ∀ pos st st', ProtoOK c st' → P st → st'.proto = st.proto → Q1 st st' →
      ∃ st'', exec mc hook i pos st' = .ok st'' ∧ st''.proto = st'.proto ∧ Q st st'') :
    RunsP mc hook c (b1 ++ b2) P Q := by
  obtain ⟨is1, hp1, hr1⟩ := h1
  refine ⟨is1 ++ [i], Parses.append hp1 hp, fun insn st hpo hpre => ?_⟩
  obtain ⟨st1, e1, f1, q1⟩ := hr1 insn st hpo hpre
  obtain ⟨st2, e2, f2, q2⟩ := he (insn + is1.length + 1) st st1 (hpo.of_proto f1) hpre f1 q1
  refine ⟨st2, ?_, f2.trans f1, q2⟩
  rw [runFrom_append mc hook is1 [i] insn st st1 e1]
  simp [runFrom, e2]

end

end Ogorek
