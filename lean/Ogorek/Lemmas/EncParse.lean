import Ogorek.Lemmas.Run
import Ogorek.Lemmas.Keys
import Ogorek.Props.C19
import Ogorek.Lemmas.EncInt
import Ogorek.Props.C13

/-!
  What the decoder's parse layer reads from each fragment the encoder writes: the binary forms and
  the plain text lines (the two text codecs and float text of protocol 0 are in `EncParseTxt.lean`),
  and the frame `Encode` puts around the value.
-/
namespace Ogorek

def flat (o : Out) : Bytes := o.chunks.flatten

theorem flat_seq (a b : Out) (h : a.err = none) : flat (a +> b) = flat a ++ flat b :=
  C13_buffering a b h

theorem seq_err_none {a b : Out} (h : (a +> b).err = none) : a.err = none ∧ b.err = none :=
  C13_seq_ok a b h

@[simp] theorem emit_err (bs : Bytes) : (emit bs).err = none := rfl

theorem seq_err {a b : Out} (h : a.err = none) : (a +> b).err = b.err := by simp [Out.seq, h]

theorem seq_ok {a b : Out} (ha : a.err = none) (hb : b.err = none) : (a +> b).err = none := (seq_err ha).trans hb

theorem seq_assoc (a b c : Out) : a +> b +> c = a +> (b +> c) := by
  unfold Out.seq
  cases ha : a.err <;> cases hb : b.err <;> simp [ha, hb]

theorem flat_emit (bs : Bytes) : flat (emit bs) = bs := by simp [flat, emit]

theorem parses_op (k : UInt8) (i : Insn) (hs : i.isStop = false) (h : parseArg k = Rd.pure i) : Parses [k] [i] := by
  apply Parses.single hs
  exact fun t => parseInsn_of h rfl

theorem parses_bool' (c : ECfg) (b : Bool) : Parses (flat (encodeBool c b)) [.pushBool b] := by
  unfold encodeBool
  split
  · cases b
    · simpa [flat_emit] using parses_op 0x89 (.pushBool false) rfl parseArg_137
    · simpa [flat_emit] using parses_op 0x88 (.pushBool true) rfl parseArg_136
  · apply Parses.single rfl
    intro t
    cases b <;>
      simp [flat_emit, sb, parseInsn, Rd.bind, readByte, parseArg_73, Rd.mapE, readLine, splitLine, parseIntArg, Rd.pure]

theorem parses_bool (c : ECfg) (b : Bool) (hp : 0 ≤ c.proto) : Parses (flat (encodeBool c b)) [.pushBool b] :=
  parses_bool' c b

theorem parses_int (c : ECfg) (i : Int) (hi : inInt64 i = true) : Parses (flat (encodeInt c i)) [.pushInt i] := by
  apply Parses.single rfl
  intro t
  exact (encodeInt_parse c i hi t).2

theorem parses_long (i : Int) : Parses (flat (encodeLong i)) [.pushBig i] := by
  apply Parses.single rfl
  intro t
  have : flat (encodeLong i) ++ t = 76 :: fmtInt i ++ 76 :: 10 :: t := by simp [flat, encodeLong, emit]
  rw [this]
  have hl : (10 : UInt8) ∉ fmtInt i ++ [76] := by simp; exact fmtInt_no_lf i
  have e : (76 :: fmtInt i ++ 76 :: 10 :: t) = 76 :: ((fmtInt i ++ [76]) ++ 10 :: t) := by simp
  rw [e]
  refine parseInsn_of parseArg_76 (Rd.mapE_ok (readLine_line _ _ hl) ?_)
  simp [parseLongArg, parseDecimal_fmtInt]

theorem beNat_natBE_8 (f : F64) : UInt64.ofNat (beNat (natBE 8 f.toNat)) = f := by
  have h := f.toNat_lt
  have : beNat (natBE 8 f.toNat) = f.toNat := by
    have hb : ∀ (bs : Bytes), beNat bs.reverse = leNat bs := by
      intro bs
      induction bs with
      | nil => simp [beNat, leNat]
      | cons x xs ih =>
        simp only [List.reverse_cons, leNat]
        rw [beNat_append_singleton, ih]; omega
    unfold natBE
    rw [hb, leNat_natLE_of_lt (by omega)]
  rw [this]
  simp

theorem parses_float_bin (c : ECfg) (f : F64) (hp : c.proto ≥ 1) : Parses (flat (encodeFloat c f)) [.pushFloat f] := by
  apply Parses.single rfl
  intro t
  simp only [encodeFloat, hp, if_true, flat_emit]
  have hl : (natBE 8 f.toNat).length = 8 := by simp [natBE, natLE_length]
  rw [List.cons_append, parseInsn_of parseArg_71 (Rd.map_ok _ (readFull_exact 8 _ t hl)), beNat_natBE_8]

theorem ofNat_toNat_small (n : Nat) (h : n < 256) : (UInt8.ofNat n).toNat = n := by
  simp [UInt8.toNat_ofNat']; omega

theorem parses_counted (short long : UInt8) (mk : Bytes → Insn) (hs : ∀ s, (mk s).isStop = false)
    (hshort : parseArg short = readCounted1.map mk) (hlong : parseArg long = (readCounted 4).map mk)
    (s : Bytes) (useShort : Prop) [Decidable useShort] (hu : useShort → s.length < 256) (hlen : s.length < 2 ^ 32) :
    Parses (flat ((if useShort then emit [short, UInt8.ofNat s.length] else emit (long :: le4 s.length)) +> emit s)) [mk s] := by
  apply Parses.single (hs s)
  intro t
  by_cases h : useShort
  · have hl := hu h
    simp only [h, if_true, flat, Out.seq, emit, List.flatten_cons, List.flatten_nil, List.append_nil, List.cons_append,
      List.nil_append]
    exact parseInsn_of hshort (Rd.map_ok _ (readCounted1_exact s t hl))
  · simp only [h, if_false, flat, Out.seq, emit, List.nil_append, List.flatten_cons, List.flatten_nil, List.append_nil, List.cons_append,
      List.append_assoc, le4]
    exact parseInsn_of hlong (Rd.map_ok _ (readCounted_exact 4 s t (by omega) (by omega)))

theorem parses_bytestring_bin (ip : IsPrint) (c : ECfg) (s : Bytes) (hp : c.proto ≥ 1) (hlen : s.length < 2 ^ 32) :
    Parses (flat (encodeByteString ip c s)) [.pushByteString s] := by
  simp only [encodeByteString, hp, if_true]
  exact parses_counted 85 84 .pushByteString (fun _ => rfl) parseArg_85 parseArg_84 s (s.length < 256) id hlen

theorem parses_unicode_bin (c : ECfg) (s : Bytes) (hp : c.proto ≥ 1) (hlen : s.length < 2 ^ 32) :
    Parses (flat (encodeUnicode c s)) [.pushStr s] := by
  simp only [encodeUnicode, hp, if_true]
  exact parses_counted 0x8c 88 .pushStr (fun _ => rfl) parseArg_140 parseArg_88 s (s.length < 256 ∧ c.proto ≥ 4) (·.1) hlen

theorem parses_bytes_hi (ip : IsPrint) (c : ECfg) (s : Bytes) (hp : c.proto ≥ 3) (hlen : s.length < 2 ^ 32) :
    Parses (flat (encodeBytes ip c s)) [.pushBytes s] := by
  simp only [encodeBytes, hp, if_true]
  exact parses_counted 67 66 .pushBytes (fun _ => rfl) parseArg_67 parseArg_66 s (s.length < 256) id hlen

theorem parses_bytearray_hi (ip : IsPrint) (c : ECfg) (s : Bytes) (hp : c.proto ≥ 5) (hlen : s.length < 2 ^ 32) :
    Parses (flat (encodeByteArray ip c s)) [.pushBytearray s] := by
  apply Parses.single rfl
  intro t
  simp only [encodeByteArray, hp, if_true, flat, Out.seq, emit, List.nil_append, List.flatten_cons, List.flatten_nil, List.append_nil,
    List.cons_append, List.append_assoc, le8]
  exact parseInsn_of parseArg_150 (Rd.map_ok _ (readCounted_exact 8 s t (by omega) (by omega)))

def strInsn (c : ECfg) (s : Bytes) : Insn := if c.su ∨ c.proto ≥ 3 then .pushStr s else .pushByteString s

theorem parses_string_bin (ip : IsPrint) (c : ECfg) (s : Bytes) (hp : c.proto ≥ 1) (hlen : s.length < 2 ^ 32) :
    Parses (flat (encodeString ip c s)) [strInsn c s] := by
  unfold encodeString strInsn
  split
  · exact parses_unicode_bin c s hp hlen
  · exact parses_bytestring_bin ip c s hp hlen

theorem not_mem_of_containsLF {l : Bytes} (h : containsLF l = false) : (10 : UInt8) ∉ l := by
  unfold containsLF at h
  intro hm
  simp at h
  exact h 10 hm rfl

theorem parses_class_global (ip : IsPrint) (c : ECfg) (m n : Bytes) (h4 : ¬ c.proto ≥ 4)
    (he : (encodeClass ip c m n).err = none) : Parses (flat (encodeClass ip c m n)) [.global m n] := by
  unfold encodeClass at *
  simp only [h4, if_false] at he ⊢
  cases hlf : containsLF m || containsLF n
  · obtain ⟨h1, h2⟩ := Bool.or_eq_false_iff.mp hlf
    rw [if_neg Bool.false_ne_true]
    apply Parses.single rfl
    intro t
    have e : flat (emit (99 :: m ++ [10] ++ n ++ [10])) ++ t = 99 :: (m ++ 10 :: (n ++ 10 :: t)) := by simp [flat_emit]
    rw [e]
    exact parseInsn_of parseArg_99 ((Rd.bind_ok (readLine_line _ _ (not_mem_of_containsLF h1))).trans
      (Rd.map_ok _ (readLine_line _ _ (not_mem_of_containsLF h2))))
  · rw [hlf] at he; cases he

def classInsns (c : ECfg) (m n : Bytes) : List Insn :=
  if c.proto ≥ 4 then [.pushStr m, .pushStr n, .stackGlobal] else [.global m n]

theorem parses_class (ip : IsPrint) (c : ECfg) (m n : Bytes) (hp : c.proto ≥ 1) (hm : m.length < 2 ^ 32) (hn : n.length < 2 ^ 32)
    (he : (encodeClass ip c m n).err = none) : Parses (flat (encodeClass ip c m n)) (classInsns c m n) := by
  unfold classInsns
  by_cases h4 : c.proto ≥ 4
  · unfold encodeClass at *
    simp only [h4, if_true] at he ⊢
    obtain ⟨h12, _⟩ := seq_err_none he
    obtain ⟨h1, h2⟩ := seq_err_none h12
    rw [flat_seq _ _ h12, flat_seq _ _ h1, flat_emit]
    have hs : ∀ x, strInsn c x = .pushStr x := by intro x; simp [strInsn]; intro; omega
    have p1 := parses_string_bin ip c m hp hm
    have p2 := parses_string_bin ip c n hp hn
    rw [hs] at p1 p2
    exact Parses.append (Parses.append p1 p2) (parses_op 0x93 .stackGlobal rfl parseArg_147)
  · rw [if_neg h4]
    exact parses_class_global ip c m n h4 he

def tupleInsns (c : ECfg) (l : Nat) (items : List Insn) : List Insn :=
  if c.proto ≥ 2 ∧ 1 ≤ l ∧ l ≤ 3 then items ++ [.tupleN l]
  else if c.proto ≥ 1 ∧ l = 0 then [.emptyTuple]
  else [.mark] ++ items ++ [.tuple]

theorem parses_tuple123 (l : Nat) (h1 : 1 ≤ l) (h3 : l ≤ 3) :
    Parses [if l = 1 then (0x85 : UInt8) else if l = 2 then 0x86 else 0x87] [.tupleN l] := by
  obtain rfl | rfl | rfl : l = 1 ∨ l = 2 ∨ l = 3 := by omega
  · exact parses_op 0x85 (.tupleN 1) rfl parseArg_133
  · exact parses_op 0x86 (.tupleN 2) rfl parseArg_134
  · exact parses_op 0x87 (.tupleN 3) rfl parseArg_135

theorem parses_tupleOf (c : ECfg) (l : Nat) (items : Out) (is : List Insn) (he : items.err = none)
    (hp : Parses (flat items) is) : Parses (flat (encodeTupleOf c l items)) (tupleInsns c l is) := by
  unfold encodeTupleOf tupleInsns
  split
  · rename_i h
    rw [flat_seq _ _ he, flat_emit]
    exact Parses.append hp (parses_tuple123 l h.2.1 h.2.2)
  · split
    · rw [flat_emit]; exact parses_op 41 .emptyTuple rfl parseArg_41
    · have h1 : (emit [40] +> items).err = none := by simp [Out.seq, emit, he]
      rw [flat_seq _ _ h1, flat_seq _ _ (by simp [emit]), flat_emit, flat_emit]
      exact Parses.append (Parses.append (parses_op 40 .mark rfl parseArg_40) hp) (parses_op 116 .tuple rfl parseArg_116)

theorem flat_encodeTop (ip : IsPrint) (c : ECfg) (v : GoVal) (he : (encodeTop ip c none v).err = none) :
    (enc ip c v).err = none ∧ flat (encodeTop ip c none v) =
      (if 2 ≤ c.proto.toNat then [0x80, UInt8.ofNat c.proto.toNat] else []) ++ (flat (enc ip c v) ++ [46]) := by
  by_cases hrange : ¬(0 ≤ c.proto ∧ c.proto ≤ 5)
  · simp only [encodeTop, hrange] at he; cases he
  simp only [encodeTop, hrange, if_false] at he ⊢
  obtain ⟨h12, _⟩ := seq_err_none he
  obtain ⟨h1, hev⟩ := seq_err_none h12
  rw [flat_seq _ _ h12, flat_seq _ _ h1, flat_emit, List.append_assoc]
  refine ⟨hev, ?_⟩
  by_cases h2 : c.proto ≥ 2
  · rw [if_pos h2, if_pos (by omega), flat_emit]
  · rw [if_neg h2, if_neg (by omega)]
    rfl

end Ogorek
