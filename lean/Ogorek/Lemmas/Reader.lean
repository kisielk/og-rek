import Ogorek.Lemmas.Num
import Ogorek.Lemmas.NoPanic

/-!
  `Good` packages the three facts about a reader of the parse layer that C04 (progress), C10 (truncation) and
  C11 (consumption) need:
  * it consumes a prefix `u` of its input and hands back the rest unchanged;
  * locality: what follows `u` does not influence the result;
  * truncation: on any proper prefix of `u` it fails with `io.EOF` or `io.ErrUnexpectedEOF`,
    never with a value and never with another error.

  `RdRes E P` is the other thing asked of a reader: whatever the input, an error it returns satisfies `E` and a value
  `P`.  One walk through the cascade of `parseArg` (`parseArg_res`) gives "never a panic" for C04 and `InsnOK` for C16.
  The `*_exact` lemmas and `parseInsn_of` read one instruction off an input that starts with exactly its encoding.
-/
namespace Ogorek

theorem Rd.bind_ok {r : Rd α} {s : α → Rd β} {inp rest : Bytes} {a : α} (h : r inp = .ok (a, rest)) :
    r.bind s inp = s a rest := by
  unfold Rd.bind; rw [h]

theorem Rd.map_ok {r : Rd α} (f : α → β) {inp rest : Bytes} {a : α} (h : r inp = .ok (a, rest)) :
    r.map f inp = .ok (f a, rest) := Rd.bind_ok h

theorem Rd.mapE_ok {r : Rd α} {f : α → Except DErr β} {inp rest : Bytes} {a : α} {b : β} (h : r inp = .ok (a, rest))
    (hf : f a = .ok b) : r.mapE f inp = .ok (b, rest) := by
  unfold Rd.mapE; rw [Rd.bind_ok h, hf]; rfl

theorem parseInsn_of {key : UInt8} {rd : Rd Insn} (hk : parseArg key = rd) {r rest : Bytes} {i : Insn}
    (h : rd r = .ok (i, rest)) : parseInsn (key :: r) = .ok (i, rest) := by
  rw [← hk] at h; exact h

def EofLike (e : DErr) : Prop := e = .eof ∨ e = .unexpectedEOF

def Good (r : Rd α) : Prop :=
  ∀ inp a rest, r inp = .ok (a, rest) →
    ∃ u, inp = u ++ rest ∧ (∀ t, r (u ++ t) = .ok (a, t)) ∧
      (∀ p q, u = p ++ q → q ≠ [] → ∃ e, r p = .error e ∧ EofLike e)

theorem Good.pure (a : α) : Good (Rd.pure a) := by
  intro inp a' rest h
  simp [Rd.pure] at h
  obtain ⟨rfl, rfl⟩ := h
  refine ⟨[], by simp, by simp [Rd.pure], ?_⟩
  intro p q h hq
  simp at h
  exact absurd h.2 hq

theorem Good.fail (e : DErr) : Good (Rd.fail e : Rd α) := by
  intro inp a rest h
  simp [Rd.fail] at h

theorem Good.bind {r : Rd α} {s : α → Rd β} (hr : Good r) (hs : ∀ a, Good (s a)) : Good (r.bind s) := by
  intro inp b rest h
  unfold Rd.bind at h
  split at h
  · rename_i a r1 h1
    obtain ⟨u1, hu1, loc1, tr1⟩ := hr inp a r1 h1
    obtain ⟨u2, hu2, loc2, tr2⟩ := hs a r1 b rest h
    refine ⟨u1 ++ u2, by rw [hu1, hu2, List.append_assoc], ?_, ?_⟩
    · intro t
      unfold Rd.bind
      rw [List.append_assoc, loc1]
      exact loc2 t
    · intro p q hpq hq
      rcases List.append_eq_append_iff.mp hpq with ⟨a', ha1, ha2⟩ | ⟨c', hc1, hc2⟩
      · obtain ⟨e, he, hl⟩ := tr2 a' q ha2 hq
        refine ⟨e, ?_, hl⟩
        unfold Rd.bind
        rw [ha1, loc1]
        exact he
      · by_cases hc : c' = []
        · subst hc
          simp at hc1 hc2
          subst hc1
          obtain ⟨e, he, hl⟩ := tr2 [] u2 (by simp) (by rw [← hc2]; exact hq)
          refine ⟨e, ?_, hl⟩
          unfold Rd.bind
          have := loc1 []
          simp at this
          rw [this]
          exact he
        · obtain ⟨e, he, hl⟩ := tr1 p c' hc1 hc
          refine ⟨e, ?_, hl⟩
          unfold Rd.bind
          rw [he]
  · simp at h

theorem Good.mapE {r : Rd α} (f : α → Except DErr β) (hr : Good r) : Good (r.mapE f) := by
  unfold Rd.mapE
  apply Good.bind hr
  intro a
  split
  · exact Good.pure _
  · exact Good.fail _

theorem Good.map {r : Rd α} (f : α → β) (hr : Good r) : Good (r.map f) := by
  unfold Rd.map
  exact Good.bind hr fun a => Good.pure _

theorem good_readByte : Good readByte := by
  intro inp a rest h
  cases inp with
  | nil => simp [readByte] at h
  | cons b r =>
    simp [readByte] at h
    obtain ⟨rfl, rfl⟩ := h
    refine ⟨[b], by simp, by simp [readByte], ?_⟩
    intro p q hpq hq
    cases p with
    | nil => exact ⟨.eof, by simp [readByte], Or.inl rfl⟩
    | cons x xs =>
      simp at hpq
      exact absurd hpq.2.2 hq

theorem good_take {n : Nat} {r : Rd Bytes} (hok : ∀ inp, n ≤ inp.length → r inp = .ok (inp.take n, inp.drop n))
    (herr : ∀ inp, inp.length < n → ∃ e, r inp = .error e ∧ EofLike e) : Good r := by
  intro inp a rest h
  by_cases hn : n ≤ inp.length
  · rw [hok inp hn] at h
    cases h
    have hl : (inp.take n).length = n := List.length_take_of_le hn
    refine ⟨inp.take n, (List.take_append_drop n inp).symm, fun t => ?_, fun p q hpq hq => herr p ?_⟩
    · rw [hok _ (by simp [hl]), List.take_left' hl, List.drop_left' hl]
    · have := congrArg List.length hpq
      have := List.length_pos_iff.mpr hq
      simp only [hl, List.length_append] at *
      omega
  · obtain ⟨e, he, _⟩ := herr inp (Nat.not_le.mp hn)
    rw [he] at h
    cases h

theorem good_readFull (n : Nat) : Good (readFull n) :=
  good_take (n := n) (fun inp h => by simp [readFull, h]) fun inp h => by
    cases inp with
    | nil => exact ⟨.eof, by simpa [readFull, Nat.pos_iff_ne_zero] using h, .inl rfl⟩
    | cons b r => exact ⟨.unexpectedEOF, by simpa [readFull] using h, .inr rfl⟩

theorem good_copyN (n : Nat) : Good (copyN n) :=
  good_take (n := n) (fun inp h => by simp [copyN, h]) fun inp h => ⟨.eof, by simp [copyN, Nat.not_le.mpr h], .inl rfl⟩

theorem splitLine_some {inp l r : Bytes} (h : splitLine inp = some (l, r)) :
    inp = l ++ 10 :: r ∧ (10 : UInt8) ∉ l := by
  induction inp generalizing l r with
  | nil => simp [splitLine] at h
  | cons b bs ih =>
    unfold splitLine at h
    split at h
    · rename_i hb
      simp at h
      obtain ⟨rfl, rfl⟩ := h
      simp [hb]
    · rename_i hb
      split at h
      · rename_i l' r' h'
        simp at h
        obtain ⟨rfl, rfl⟩ := h
        obtain ⟨h1, h2⟩ := ih h'
        refine ⟨by rw [h1]; simp, ?_⟩
        simp [h2]
        exact fun h => hb h.symm
      · simp at h

theorem splitLine_of_not_mem {l : Bytes} (hl : (10 : UInt8) ∉ l) (t : Bytes) :
    splitLine (l ++ 10 :: t) = some (l, t) := by
  induction l with
  | nil => simp [splitLine]
  | cons b bs ih =>
    simp at hl
    have hb : ¬ b = 10 := fun h => hl.1 h.symm
    simp [splitLine, hb, ih hl.2]

theorem splitLine_none {p : Bytes} (hp : (10 : UInt8) ∉ p) : splitLine p = none := by
  induction p with
  | nil => simp [splitLine]
  | cons b bs ih =>
    simp at hp
    have hb : ¬ b = 10 := fun h => hp.1 h.symm
    simp [splitLine, hb, ih hp.2]

theorem good_readLine : Good readLine := by
  intro inp a rest h
  unfold readLine at h
  split at h
  · rename_i l r hs
    simp at h
    obtain ⟨rfl, rfl⟩ := h
    obtain ⟨h1, h2⟩ := splitLine_some hs
    refine ⟨l ++ [10], by rw [h1]; simp, ?_, ?_⟩
    · intro t
      unfold readLine
      have : l ++ [10] ++ t = l ++ 10 :: t := by simp
      rw [this, splitLine_of_not_mem h2]
    · intro p q hpq hq
      -- p is a prefix of l (since q ≠ [] and the LF is the last byte)
      have hp : (10 : UInt8) ∉ p := by
        rcases List.append_eq_append_iff.mp hpq with ⟨a', ha1, ha2⟩ | ⟨c', hc1, hc2⟩
        · cases a' with
          | nil => simp at ha1; rw [ha1]; exact h2
          | cons x xs =>
            simp at ha2
            have : q = [] := by
              have := ha2.2
              cases xs <;> simp_all
            exact absurd this hq
        · intro hm
          apply h2
          rw [hc1]
          simp [hm]
      unfold readLine
      rw [splitLine_none hp]
      exact ⟨.eof, rfl, Or.inl rfl⟩
  · simp at h

theorem good_readCounted (n : Nat) : Good (readCounted n) := by
  unfold readCounted
  apply Good.bind (good_readFull n)
  intro lb
  split
  · exact Good.fail _
  · exact good_copyN _

theorem good_readCounted1 : Good readCounted1 := by
  unfold readCounted1
  exact Good.bind good_readByte fun b => good_copyN _

theorem readLine_line (l t : Bytes) (h : (10 : UInt8) ∉ l) : readLine (l ++ 10 :: t) = .ok (l, t) := by
  unfold readLine; rw [splitLine_of_not_mem h]

theorem readFull_exact (n : Nat) (a t : Bytes) (h : a.length = n) : readFull n (a ++ t) = .ok (a, t) := by
  subst h
  unfold readFull
  simp

theorem readFull_length {n : Nat} {inp b r : Bytes} (h : readFull n inp = .ok (b, r)) : b.length = n := by
  unfold readFull at h
  split at h
  · simp at h; obtain ⟨rfl, _⟩ := h; simp [List.length_take]; omega
  · split at h <;> simp at h

theorem copyN_exact (a t : Bytes) : copyN a.length (a ++ t) = .ok (a, t) := by
  unfold copyN; simp

theorem readCounted_exact (w : Nat) (s t : Bytes) (h1 : s.length < 256 ^ w) (h2 : s.length ≤ 2 ^ 63 - 1) :
    readCounted w (natLE w s.length ++ (s ++ t)) = .ok (s, t) := by
  unfold readCounted Rd.bind
  rw [readFull_exact w _ _ (natLE_length w _)]
  simp only [leNat_natLE_of_lt h1]
  have : ¬ s.length > 2 ^ 63 - 1 := by omega
  simp only [this, if_false]
  exact copyN_exact s t

theorem readCounted1_exact (s t : Bytes) (h : s.length < 256) :
    readCounted1 (UInt8.ofNat s.length :: (s ++ t)) = .ok (s, t) := by
  unfold readCounted1 Rd.bind
  simp only [readByte]
  have : (UInt8.ofNat s.length).toNat = s.length := by simp [UInt8.toNat_ofNat']; omega
  rw [this]
  exact copyN_exact s t

theorem Good.ite {c : Prop} [Decidable c] {a b : Rd α} (ha : Good a) (hb : Good b) :
    Good (if c then a else b) := by
  split <;> assumption

theorem good_parseArg (key : UInt8) : Good (parseArg key) := by
  unfold parseArg
  repeat' with_reducible apply Good.ite
  -- every branch is `pure`, or `map` / `mapE` over one primitive reader, or the two lines of GLOBAL
  all_goals with_reducible first
    | apply Good.pure
    | apply Good.mapE
    | apply Good.map
    | exact Good.bind good_readLine fun _ => Good.map _ good_readLine
  all_goals with_reducible first
    | exact good_readLine
    | exact good_readByte
    | exact good_readFull _
    | exact good_readCounted _
    | exact good_readCounted1

theorem good_parseInsn : Good parseInsn := Good.bind good_readByte good_parseArg

theorem Good.length_le {r : Rd α} (hr : Good r) {inp : Bytes} {a : α} {rest : Bytes}
    (h : r inp = .ok (a, rest)) : rest.length ≤ inp.length := by
  obtain ⟨u, hu, _, _⟩ := hr inp a rest h
  rw [hu]; simp

/-- What `parseArg_res` shows of every instruction read. -/
def InsnOK : Insn → Prop
  | .pushInt i => inInt64 i = true
  | _ => True

def ResOK (E : DErr → Prop) (P : α → Prop) : Except DErr α → Prop
  | .ok a => P a
  | .error e => E e

/-- Whatever its input, reader `r` returns a value with `P` or fails with an error with `E`. -/
def RdRes (E : DErr → Prop) (P : α → Prop) (r : Rd α) : Prop := ∀ inp, ResOK E (fun p => P p.1) (r inp)

section
variable {E : DErr → Prop}

theorem RdRes.pure {P : α → Prop} {a : α} (h : P a) : RdRes E P (Rd.pure a) := fun _ => h

theorem RdRes.fail {P : α → Prop} {e : DErr} (h : E e) : RdRes E P (Rd.fail e : Rd α) := fun _ => h

theorem RdRes.bind {Q : α → Prop} {P : β → Prop} {r : Rd α} {s : α → Rd β} (hr : RdRes E Q r)
    (hs : ∀ a, Q a → RdRes E P (s a)) : RdRes E P (r.bind s) := by
  intro inp
  have h := hr inp
  unfold Rd.bind
  revert h
  rcases r inp with e | ⟨a, rest⟩
  · exact id
  · exact fun h => hs a h rest

theorem RdRes.mapE {Q : α → Prop} {P : β → Prop} {r : Rd α} {f : α → Except DErr β} (hr : RdRes E Q r)
    (hf : ∀ a, Q a → ResOK E P (f a)) : RdRes E P (r.mapE f) := by
  refine RdRes.bind hr fun a ha => ?_
  have h := hf a ha
  revert h
  cases f a with
  | ok b => exact fun h => RdRes.pure h
  | error e => exact fun h => RdRes.fail h

theorem RdRes.map {Q : α → Prop} {P : β → Prop} {r : Rd α} {f : α → β} (hr : RdRes E Q r)
    (hf : ∀ a, Q a → P (f a)) : RdRes E P (r.map f) :=
  RdRes.bind hr fun a ha => RdRes.pure (hf a ha)

theorem RdRes.ite {P : α → Prop} {c : Prop} [Decidable c] {a b : Rd α} (ha : RdRes E P a) (hb : RdRes E P b) :
    RdRes E P (if c then a else b) := by
  split <;> assumption

end

theorem res_readByte : RdRes NotPanic (fun _ => True) readByte
  | [] => nofun
  | _ :: _ => trivial

theorem res_readFull (n : Nat) : RdRes NotPanic (fun b => b.length = n) (readFull n) := by
  intro inp
  unfold readFull
  by_cases h : n ≤ inp.length
  · rw [if_pos h]; exact List.length_take_of_le h
  · rw [if_neg h]; split <;> nofun

theorem res_copyN (n : Nat) : RdRes NotPanic (fun _ => True) (copyN n) := by
  intro inp
  unfold copyN
  split
  · trivial
  · nofun

theorem res_readLine : RdRes NotPanic (fun _ => True) readLine := by
  intro inp
  unfold readLine
  split
  · trivial
  · nofun

theorem res_readCounted (n : Nat) : RdRes NotPanic (fun _ => True) (readCounted n) :=
  RdRes.bind (res_readFull n) fun _ _ => RdRes.ite (RdRes.fail fun _ => nofun) (res_copyN _)

theorem res_readCounted1 : RdRes NotPanic (fun _ => True) readCounted1 :=
  RdRes.bind res_readByte fun _ _ => res_copyN _

theorem parseFloatArg_res (l : Bytes) : ResOK NotPanic InsnOK (parseFloatArg l) := by
  unfold parseFloatArg
  split
  · trivial
  all_goals nofun

theorem parseIntArg_res (l : Bytes) : ResOK NotPanic InsnOK (parseIntArg l) := by
  unfold parseIntArg
  repeat' split
  all_goals first | trivial | nofun | assumption

theorem parseLongArg_res (l : Bytes) : ResOK NotPanic InsnOK (parseLongArg l) := by
  unfold parseLongArg
  repeat' split
  all_goals first | trivial | nofun

theorem parseUnicodeArg_res (l : Bytes) : ResOK NotPanic InsnOK (parseUnicodeArg l) := by
  unfold parseUnicodeArg
  split
  · trivial
  · nofun

theorem parseStringInsn_res (l : Bytes) : ResOK NotPanic InsnOK (Insn.pushByteString <$> parseStringArg l) := by
  unfold parseStringArg
  repeat' split
  all_goals first | trivial | (intro _ h; cases h; done) | skip
  rename_i h
  exact absurd h (pydecodeStringEscape_no_panic _)

theorem binint_ok (a : Bytes) (hl : a.length = 4) : InsnOK (.pushInt (toSigned 32 (leNat a))) := by
  have := leNat_lt a
  rw [hl] at this
  simp only [InsnOK, inInt64_iff, toSigned]
  split <;> omega

theorem binint2_ok (a : Bytes) (hl : a.length = 2) : InsnOK (.pushInt (leNat a)) := by
  have := leNat_lt a
  rw [hl] at this
  simp only [InsnOK, inInt64_iff]
  omega

theorem binint1_ok (a : UInt8) : InsnOK (.pushInt a.toNat) := by
  have := a.toNat_lt
  simp only [InsnOK, inInt64_iff]
  omega

/-- The integer of the instruction fits int64: C16 starts from that; the error is not a panic: C04. -/
theorem parseArg_res (key : UInt8) : RdRes NotPanic InsnOK (parseArg key) := by
  unfold parseArg
  repeat' with_reducible apply RdRes.ite
  all_goals with_reducible first
    | apply RdRes.pure
    | apply RdRes.map res_readLine
    | apply RdRes.map res_readByte
    | apply RdRes.map (res_readFull _)
    | apply RdRes.map (res_readCounted _)
    | apply RdRes.map res_readCounted1
    | apply RdRes.mapE res_readLine
    | refine RdRes.bind res_readLine fun _ _ => RdRes.map res_readLine ?_
  -- what is left: a statement about each constant instruction, constructor and argument interpreter
  all_goals first
    | exact True.intro
    | exact fun _ _ => True.intro
    | exact fun a _ => binint1_ok a
    | exact binint2_ok
    | exact binint_ok
    | with_reducible exact fun l _ => parseFloatArg_res l
    | with_reducible exact fun l _ => parseIntArg_res l
    | with_reducible exact fun l _ => parseLongArg_res l
    | with_reducible exact fun l _ => parseUnicodeArg_res l
    | with_reducible exact fun l _ => parseStringInsn_res l

theorem parseArg_no_panic {key : UInt8} {r : Bytes} {e : DErr} (h : parseArg key r = .error e) : NotPanic e := by
  have := parseArg_res key r
  rw [h] at this
  exact this

end Ogorek
