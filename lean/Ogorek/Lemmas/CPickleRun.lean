import Ogorek.Lemmas.CPickleOut

/-!
  Decoding what CPython's pickler writes (C02): the run framework.

  `RunsP` is `Runs` with a precondition on the start state and without the "memo untouched"
  clause (every container and string is followed by a PUT / MEMOIZE), and `RepG` is `Rep` for
  Python objects with a *locality* index: every heap object the value refers to was allocated at
  index `≥ n`.  SETITEM(S) updates the dict under construction in place, and locality is what keeps
  the already decoded keys and values valid across that update.
-/
namespace Ogorek

def RunsP (mc : MCfg) (hook : Hook) (c : ECfg) (bs : Bytes) (Pre : DState → Prop) (Q : DState → DState → Prop) : Prop :=
  ∃ is, Parses bs is ∧ ∀ insn st, ProtoOK c st → Pre st →
    ∃ st', runFrom mc hook insn is st = .ok st' ∧ st'.proto = st.proto ∧ Q st st'

theorem ProtoOK.of_proto {c : ECfg} {st st' : DState} (h : ProtoOK c st) (e : st'.proto = st.proto) : ProtoOK c st' := by
  unfold ProtoOK at *; rw [e]; exact h

section
variable {mc : MCfg} {hook : Hook} {c : ECfg}

theorem RunsP.weaken {bs : Bytes} {P P' : DState → Prop} {Q Q' : DState → DState → Prop}
    (h : RunsP mc hook c bs P Q) (hp : ∀ st, P' st → P st)
    (hq : ∀ st st', P' st → st'.proto = st.proto → Q st st' → Q' st st') : RunsP mc hook c bs P' Q' := by
  obtain ⟨is, hpar, hr⟩ := h
  refine ⟨is, hpar, fun insn st hpo hpre => ?_⟩
  obtain ⟨st', e, f, q⟩ := hr insn st hpo (hp st hpre)
  exact ⟨st', e, f, hq st st' hpre f q⟩

theorem RunsP.seq {b1 b2 : Bytes} {P1 P2 : DState → Prop} {Q1 Q2 : DState → DState → Prop}
    (h1 : RunsP mc hook c b1 P1 Q1) (h2 : RunsP mc hook c b2 P2 Q2)
    (hmid : ∀ st st1, P1 st → st1.proto = st.proto → Q1 st st1 → P2 st1) :
    RunsP mc hook c (b1 ++ b2) P1 (fun st st2 => ∃ st1, st1.proto = st.proto ∧ Q1 st st1 ∧ Q2 st1 st2) := by
  obtain ⟨is1, hp1, hr1⟩ := h1
  obtain ⟨is2, hp2, hr2⟩ := h2
  refine ⟨is1 ++ is2, Parses.append hp1 hp2, fun insn st hpo hpre => ?_⟩
  obtain ⟨st1, e1, f1, q1⟩ := hr1 insn st hpo hpre
  obtain ⟨st2, e2, f2, q2⟩ := hr2 (insn + is1.length) st1 (hpo.of_proto f1) (hmid st st1 hpre f1 q1)
  refine ⟨st2, ?_, f2.trans f1, st1, f1, q1, q2⟩
  rw [runFrom_append mc hook is1 is2 insn st st1 e1, e2]

theorem RunsP.one {bs : Bytes} {i : Insn} {P : DState → Prop} {Q : DState → DState → Prop}
    (hp : Parses bs [i])
    (he : ∀ pos st, ProtoOK c st → P st → ∃ st', exec mc hook i pos st = .ok st' ∧ st'.proto = st.proto ∧ Q st st') :
    RunsP mc hook c bs P Q := by
  refine ⟨[i], hp, fun insn st hpo hpre => ?_⟩
  obtain ⟨st', e, f, q⟩ := he (insn + 1) st hpo hpre
  exact ⟨st', by simp [runFrom, e], f, q⟩

theorem RunsP.nil {P : DState → Prop} {Q : DState → DState → Prop} (h : ∀ st, P st → Q st st) : RunsP mc hook c [] P Q :=
  ⟨[], Parses.nil, fun _ st _ hp => ⟨st, rfl, rfl, h st hp⟩⟩

end

def AgreeL {α : Type} (n : Nat) (h h' : List α) : Prop := ∀ i, n ≤ i → i < h.length → h'[i]? = h[i]?

theorem AgreeL.refl {α : Type} (n : Nat) (h : List α) : AgreeL n h h := fun _ _ _ => rfl

theorem AgreeL.append {α : Type} (n : Nat) (h t : List α) : AgreeL n h (h ++ t) :=
  fun _ _ hi => List.getElem?_append_left hi

theorem AgreeL.trans {α : Type} {n : Nat} {h1 h2 h3 : List α} (a : AgreeL n h1 h2) (b : AgreeL n h2 h3)
    (hl : h1.length ≤ h2.length) : AgreeL n h1 h3 :=
  fun i hn hi => (b i hn (by omega)).trans (a i hn hi)

theorem AgreeL.mono {α : Type} {n m : Nat} {h h' : List α} (a : AgreeL n h h') (hm : n ≤ m) : AgreeL m h h' :=
  fun i hn hi => a i (by omega) hi

theorem AgreeL.set {α : Type} {n : Nat} (h : List α) (id : Nat) (o : α) (hid : id < n) : AgreeL n h (h.set id o) := by
  intro i hn _
  rw [List.getElem?_set]
  have : ¬ id = i := by omega
  simp [this]

/-- Unfolds to `AgreeL n h h'`: the `AgreeL` lemmas are used for it as they stand. -/
def AgreeFrom (n : Nat) (h h' : List HObj) : Prop := ∀ i, n ≤ i → i < h.length → h'[i]? = h[i]?

theorem AgreeFrom.append (n : Nat) (h t : List HObj) : AgreeFrom n h (h ++ t) := AgreeL.append n h t

mutual
def RepG (cfg : Cfg) (n : Nat) (heap : List HObj) (r : GoVal) : PyObj → Prop
  | .none => r = .none
  | .bool b => r = .bool b
  | .int i => if fits32 i = true then r = .int i else ∃ id, r = .big id i
  | .float f => r = .float f
  | .str s => r = .str s
  | .bytes s => r = .bytes s
  | .bytearray s => r = .bytearray s
  | .tuple xs => ∃ rs, r = .tuple rs ∧ RepGList cfg n heap rs xs
  | .list xs => ∃ rs, r = .list rs ∧ RepGList cfg n heap rs xs
  | .dict kvs => ∃ id es, r = .href id ∧ n ≤ id ∧ heap[id]? = some { kind := dictKind cfg, kvs := es } ∧
      RepGPairs cfg n heap es kvs
def RepGList (cfg : Cfg) (n : Nat) (heap : List HObj) : List GoVal → List PyObj → Prop
  | [], [] => True
  | r :: rs, x :: xs => RepG cfg n heap r x ∧ RepGList cfg n heap rs xs
  | _, _ => False
def RepGPairs (cfg : Cfg) (n : Nat) (heap : List HObj) : Entries → List (PyObj × PyObj) → Prop
  | [], [] => True
  | (rk, rv) :: es, (k, v) :: kvs => RepG cfg n heap rk k ∧ RepG cfg n heap rv v ∧ RepGPairs cfg n heap es kvs
  | _, _ => False
end

mutual
theorem RepG.congr (cfg : Cfg) {n m : Nat} {h h' : List HObj} (a : AgreeFrom n h h') (hm : m ≤ n) (r : GoVal) :
    (v : PyObj) → RepG cfg n h r v → RepG cfg m h' r v
  | .none | .bool _ | .int _ | .float _ | .str _ | .bytes _ | .bytearray _ => id
  | .tuple xs | .list xs => fun ⟨rs, e, hl⟩ => ⟨rs, e, RepGList.congr cfg a hm rs xs hl⟩
  | .dict kvs => fun ⟨id, es, e, hge, hg, hp⟩ =>
    ⟨id, es, e, Nat.le_trans hm hge, (a id hge (getElem?_lt_of_some hg)).trans hg, RepGPairs.congr cfg a hm es kvs hp⟩
theorem RepGList.congr (cfg : Cfg) {n m : Nat} {h h' : List HObj} (a : AgreeFrom n h h') (hm : m ≤ n) :
    (rs : List GoVal) → (xs : List PyObj) → RepGList cfg n h rs xs → RepGList cfg m h' rs xs
  | [], [], _ => trivial
  | [], _ :: _, hr | _ :: _, [], hr => hr.elim
  | r :: rs, x :: xs, ⟨h1, h2⟩ => ⟨RepG.congr cfg a hm r x h1, RepGList.congr cfg a hm rs xs h2⟩
theorem RepGPairs.congr (cfg : Cfg) {n m : Nat} {h h' : List HObj} (a : AgreeFrom n h h') (hm : m ≤ n) :
    (es : Entries) → (kvs : List (PyObj × PyObj)) → RepGPairs cfg n h es kvs → RepGPairs cfg m h' es kvs
  | [], [], _ => trivial
  | [], _ :: _, hr | _ :: _, [], hr => hr.elim
  | (rk, rv) :: es, (k, v) :: kvs, ⟨h1, h2, h3⟩ =>
    ⟨RepG.congr cfg a hm rk k h1, RepG.congr cfg a hm rv v h2, RepGPairs.congr cfg a hm es kvs h3⟩
end

mutual
theorem RepG.toRep (mc : MCfg) (ρ : GoVal → GoVal) {n : Nat} {h : List HObj} (r : GoVal) :
    (v : PyObj) → RepG mc.cfg n h r v → Rep mc ρ h r (goOf v)
  | .none | .bool _ | .float _ | .str _ | .bytes _ | .bytearray _ => id
  | .int i => fun hr => by
    by_cases hf : fits32 i = true
    · rw [show goOf (.int i) = .int i from if_pos hf]
      exact (if_pos hf).mp hr
    · rw [show goOf (.int i) = .big 0 i from if_neg hf]
      exact (if_neg hf).mp hr
  | .tuple xs | .list xs => fun ⟨rs, e, hl⟩ => ⟨rs, e, RepGList.toRep mc ρ rs xs hl⟩
  | .dict kvs => fun ⟨id, es, e, _, hg, hp⟩ => ⟨id, es, e, hg, RepGPairs.toRep mc ρ es kvs hp⟩
theorem RepGList.toRep (mc : MCfg) (ρ : GoVal → GoVal) {n : Nat} {h : List HObj} :
    (rs : List GoVal) → (xs : List PyObj) → RepGList mc.cfg n h rs xs → RepList mc ρ h rs (goOfList xs)
  | [], [], _ => trivial
  | [], _ :: _, hr | _ :: _, [], hr => hr.elim
  | r :: rs, x :: xs, ⟨h1, h2⟩ => ⟨RepG.toRep mc ρ r x h1, RepGList.toRep mc ρ rs xs h2⟩
theorem RepGPairs.toRep (mc : MCfg) (ρ : GoVal → GoVal) {n : Nat} {h : List HObj} :
    (es : Entries) → (kvs : List (PyObj × PyObj)) → RepGPairs mc.cfg n h es kvs → RepPairs mc ρ h es (goOfPairs kvs)
  | [], [], _ => trivial
  | [], _ :: _, hr | _ :: _, [], hr => hr.elim
  | (rk, rv) :: es, (k, v) :: kvs, ⟨h1, h2, h3⟩ =>
    ⟨RepG.toRep mc ρ rk k h1, RepG.toRep mc ρ rv v h2, RepGPairs.toRep mc ρ es kvs h3⟩
end

theorem RepG.not_mark {cfg : Cfg} {n : Nat} {h : List HObj} {r : GoVal} {v : PyObj} (hr : RepG cfg n h r v) : isMark r = false :=
  (RepG.toRep { cfg := cfg } id r v hr).not_mark

theorem RepGList.no_mark {cfg : Cfg} {n : Nat} {h : List HObj} {rs : List GoVal} {xs : List PyObj}
    (hr : RepGList cfg n h rs xs) : ∀ r ∈ rs, isMark r = false :=
  RepList.no_mark (RepGList.toRep { cfg := cfg } id rs xs hr)

theorem RepGList.append {cfg : Cfg} {n : Nat} {h : List HObj} : {rs1 rs2 : List GoVal} → {xs1 xs2 : List PyObj} →
    RepGList cfg n h rs1 xs1 → RepGList cfg n h rs2 xs2 → RepGList cfg n h (rs1 ++ rs2) (xs1 ++ xs2)
  | [], _, [], _, _, h2 => h2
  | [], _, _ :: _, _, h1, _ | _ :: _, _, [], _, h1, _ => h1.elim
  | _ :: _, _, _ :: _, _, ⟨h1, h1'⟩, h2 => ⟨h1, RepGList.append h1' h2⟩

theorem RepGPairs.append {cfg : Cfg} {n : Nat} {h : List HObj} : {e1 e2 : Entries} → {k1 k2 : List (PyObj × PyObj)} →
    RepGPairs cfg n h e1 k1 → RepGPairs cfg n h e2 k2 → RepGPairs cfg n h (e1 ++ e2) (k1 ++ k2)
  | [], _, [], _, _, h2 => h2
  | [], _, _ :: _, _, h1, _ | _ :: _, _, [], _, h1, _ => h1.elim
  | (_, _) :: _, _, (_, _) :: _, _, ⟨h1, h1', h1''⟩, h2 => ⟨h1, h1', RepGPairs.append h1'' h2⟩

end Ogorek
