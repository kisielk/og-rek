import Ogorek.Lemmas.RueInv
import Ogorek.CPickle

/-!
  CPython's pickler writes protocol-0 text with its own `raw_unicode_escape` (the codec's escapes, and
  `\\`, LF, CR, NUL and 0x1a as `\u00XX`): og-rek's `pydecodeRawUnicodeEscape` is its inverse on every
  valid UTF-8 text, and the escaped text holds no newline.
-/
namespace Ogorek

theorem cpRueAux_eq : cpRueAux = rueWith fun r => r = 92 || r = 10 || r = 13 || r = 0 || r = 26 := by
  funext fuel
  induction fuel with
  | zero => rfl
  | succ n ih => funext s; simp only [cpRueAux, rueWith, ih]; rfl

theorem cpRue_inv (s u : Bytes) (h : cpRue s = some u) : pydecodeRawUnicodeEscape u = .ok s :=
  rueWith_decode (esc := fun r => r = 92 || r = 10 || r = 13 || r = 0 || r = 26) rfl
    (fun r hr => by simp at hr; omega) (cpRueAux_eq ▸ h)

theorem cpRue_no_lf (s u : Bytes) (h : cpRue s = some u) : (10 : UInt8) ∉ u :=
  rueWith_no_lf (esc := fun r => r = 92 || r = 10 || r = 13 || r = 0 || r = 26) rfl s.length s u (cpRueAux_eq ▸ h)

end Ogorek
