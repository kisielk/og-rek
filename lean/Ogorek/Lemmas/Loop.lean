import Ogorek.Decoder

/-!
  One iteration of the decode loop.  `decodeLoop` matches on the parsed instruction with STOP as
  one pattern among all opcodes; every induction over the loop goes through the facts below instead
  of unfolding it: `decodeLoop_ok_inv` for a run known to succeed, `decodeLoop_induct` for a run with
  any outcome.
-/
namespace Ogorek

def Insn.isStop : Insn → Bool
  | .stop => true
  | _ => false

theorem Insn.isStop_iff {i : Insn} : i.isStop = true ↔ i = .stop := by
  cases i <;> simp [Insn.isStop]

theorem decodeLoop_nil (mc : MCfg) (hook : Hook) (fuel insn : Nat) (st : DState) :
    decodeLoop mc hook (fuel + 1) insn st [] = (.error (if insn = 0 then .eof else .unexpectedEOF), st, []) := rfl

theorem decodeLoop_parse_err {mc : MCfg} {hook : Hook} {fuel insn : Nat} {st : DState} {key : UInt8} {r : Bytes} {e : DErr}
    (hp : parseArg key r = .error e) :
    decodeLoop mc hook (fuel + 1) insn st (key :: r) = (.error (if e = .eof then .unexpectedEOF else e), st, r) := by
  rw [decodeLoop]
  simp only [readByte, hp]

theorem decodeLoop_cons {mc : MCfg} {hook : Hook} {fuel insn : Nat} {st : DState} {key : UInt8} {r rest : Bytes} {i : Insn}
    (hp : parseArg key r = .ok (i, rest)) :
    decodeLoop mc hook (fuel + 1) insn st (key :: r) =
      if i.isStop then
        match popUser st with
        | .ok (v, st') => (.ok v, st', rest)
        | .error e => (.error e, st, rest)
      else
        match exec mc hook i (insn + 1) st with
        | .ok st' => decodeLoop mc hook fuel (insn + 1) st' rest
        | .error e => (.error e, st, rest) := by
  rw [decodeLoop]
  simp only [readByte, hp]
  cases i <;> rfl

theorem decodeLoop_cons_stop {mc : MCfg} {hook : Hook} {fuel insn : Nat} {st : DState} {key : UInt8} {r rest : Bytes}
    (hp : parseArg key r = .ok (.stop, rest)) :
    decodeLoop mc hook (fuel + 1) insn st (key :: r) =
      match popUser st with
      | .ok (v, st') => (.ok v, st', rest)
      | .error e => (.error e, st, rest) := decodeLoop_cons hp

theorem decodeLoop_ok_inv {mc : MCfg} {hook : Hook} {fuel insn : Nat} {st st' : DState} {inp rest : Bytes} {v : GoVal}
    (h : decodeLoop mc hook (fuel + 1) insn st inp = (.ok v, st', rest)) :
    ∃ key r i rest', inp = key :: r ∧ parseArg key r = .ok (i, rest') ∧
      ((i = .stop ∧ popUser st = .ok (v, st') ∧ rest = rest') ∨
       (i.isStop = false ∧ ∃ st1, exec mc hook i (insn + 1) st = .ok st1 ∧
          decodeLoop mc hook fuel (insn + 1) st1 rest' = (.ok v, st', rest))) := by
  cases inp with
  | nil => simp [decodeLoop_nil] at h
  | cons key r =>
    cases hp : parseArg key r with
    | error e => simp [decodeLoop_parse_err hp] at h
    | ok ir =>
      obtain ⟨i, rest'⟩ := ir
      rw [decodeLoop_cons hp] at h
      refine ⟨key, r, i, rest', rfl, hp, ?_⟩
      cases hs : i.isStop with
      | true =>
        rw [hs, if_pos rfl] at h
        cases hu : popUser st with
        | error e => simp [hu] at h
        | ok vs =>
          rw [hu] at h
          simp only [Prod.mk.injEq, Except.ok.injEq] at h
          exact Or.inl ⟨Insn.isStop_iff.mp hs, by rw [← h.1, ← h.2.1], h.2.2.symm⟩
      | false =>
        rw [hs, if_neg Bool.false_ne_true] at h
        cases he : exec mc hook i (insn + 1) st with
        | error e => simp [he] at h
        | ok st1 => rw [he] at h; exact Or.inr ⟨rfl, st1, rfl, h⟩

theorem decodeLoop_step (mc : MCfg) (hook : Hook) (f insn : Nat) (st st1 : DState) (key : UInt8) (r rest : Bytes) (i : Insn)
    (hp : parseArg key r = .ok (i, rest)) (hs : i.isStop = false) (he : exec mc hook i (insn + 1) st = .ok st1) :
    decodeLoop mc hook (f + 1) insn st (key :: r) = decodeLoop mc hook f (insn + 1) st1 rest := by
  rw [decodeLoop_cons hp, hs, if_neg Bool.false_ne_true, he]

theorem decodeLoop_induct {mc : MCfg} {hook : Hook} {P : Nat → Nat → DState → Bytes → M GoVal × DState × Bytes → Prop}
    (zero : ∀ {insn st inp}, P 0 insn st inp (decodeLoop mc hook 0 insn st inp))
    (nil : ∀ {fuel insn st}, P (fuel + 1) insn st [] (.error (if insn = 0 then .eof else .unexpectedEOF), st, []))
    (parse_err : ∀ {fuel insn st key r e}, parseArg key r = .error e →
      P (fuel + 1) insn st (key :: r) (.error (if e = .eof then .unexpectedEOF else e), st, r))
    (stop_ok : ∀ {fuel insn st key r rest v st'}, parseArg key r = .ok (.stop, rest) → popUser st = .ok (v, st') →
      P (fuel + 1) insn st (key :: r) (.ok v, st', rest))
    (stop_err : ∀ {fuel insn st key r rest e}, parseArg key r = .ok (.stop, rest) → popUser st = .error e →
      P (fuel + 1) insn st (key :: r) (.error e, st, rest))
    (exec_err : ∀ {fuel insn st key r i rest e}, parseArg key r = .ok (i, rest) → i.isStop = false →
      exec mc hook i (insn + 1) st = .error e → P (fuel + 1) insn st (key :: r) (.error e, st, rest))
    (step : ∀ {fuel insn st key r i rest st1}, parseArg key r = .ok (i, rest) → i.isStop = false →
      exec mc hook i (insn + 1) st = .ok st1 → P fuel (insn + 1) st1 rest (decodeLoop mc hook fuel (insn + 1) st1 rest) →
      P (fuel + 1) insn st (key :: r) (decodeLoop mc hook fuel (insn + 1) st1 rest)) :
    ∀ fuel insn st inp, P fuel insn st inp (decodeLoop mc hook fuel insn st inp) := by
  intro fuel
  induction fuel with
  | zero => exact @zero
  | succ fuel ih =>
    intro insn st inp
    cases inp with
    | nil => exact nil
    | cons key r =>
      cases hp : parseArg key r with
      | error e => rw [decodeLoop_parse_err hp]; exact parse_err hp
      | ok ir =>
        obtain ⟨i, rest⟩ := ir
        rw [decodeLoop_cons hp]
        cases hs : i.isStop with
        | true =>
          cases Insn.isStop_iff.mp hs
          cases hu : popUser st with
          | ok vs => exact stop_ok hp hu
          | error e => exact stop_err hp hu
        | false =>
          cases he : exec mc hook i (insn + 1) st with
          | ok st1 => exact step hp hs he (ih _ _ _)
          | error e => exact exec_err hp hs he

end Ogorek
