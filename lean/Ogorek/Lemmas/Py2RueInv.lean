import Ogorek.Lemmas.RueInv
import Ogorek.Py2Rue

/-!
  Python 2's picklers write protocol-0 text with backslash and LF as `\u005c` / `\u000a` and the `raw-unicode-escape` codec for the
  rest (`py2Rue`): og-rek's `pydecodeRawUnicodeEscape` is its inverse on every valid UTF-8 text, and the escaped text holds no newline.
  (`py2Rue` writes what og-rek's own encoder writes.)
-/
namespace Ogorek

theorem py2Rue_eq (s : Bytes) : py2Rue s = pyencodeRawUnicodeEscape s := by
  have : py2RueAux = pyencodeRawUnicodeEscapeAux := by
    funext fuel
    induction fuel with
    | zero => rfl
    | succ n ih => funext s; simp only [py2RueAux, pyencodeRawUnicodeEscapeAux, ih]; rfl
  rw [py2Rue, this, pyencodeRawUnicodeEscape]

theorem py2Rue_inv (s u : Bytes) (h : py2Rue s = some u) : pydecodeRawUnicodeEscape u = .ok s :=
  rue_inv s u (py2Rue_eq s ▸ h)

theorem py2Rue_no_lf (s u : Bytes) (h : py2Rue s = some u) : (10 : UInt8) ∉ u :=
  rue_no_lf s u (py2Rue_eq s ▸ h)

end Ogorek
