import Ogorek.Lemmas.PvmDict
import Ogorek.Lemmas.PvmForms2
import Ogorek.CPickleS
import Ogorek.Lemmas.CPickleRun

/-!
  CPython's unpickler on what CPython's pickler writes: straight-line runs with a precondition, and the representation
  relation with locality (lists and dicts are heap objects there, both filled in place by APPEND(S) / SETITEM(S)).
  Mirrors `Lemmas/CPickleRun.lean` for og-rek's decoder.
-/
namespace Ogorek

/-- `RunsP` on the Python machine.  No instruction is FRAME, which is no instruction of `pexec`: the load loop `pvmLoop`
    consumes it, and only a run without one goes through the loop step by step (`pvmLoad_run`). -/
def PRunsP (c : ECfg) (bs : Bytes) (Pre : PState → Prop) (Q : PState → PState → Prop) : Prop :=
  ∃ is, Parses bs is ∧ noFrame is = true ∧ ∀ st, PProtoOK c st → Pre st →
    ∃ st', prunFrom is st = .ok st' ∧ st'.proto = st.proto ∧ Q st st'

theorem PProtoOK.of_proto {c : ECfg} {st st' : PState} (h : PProtoOK c st) (e : st'.proto = st.proto) : PProtoOK c st' := by
  unfold PProtoOK at *; rw [e]; exact h

section
variable {c : ECfg}

theorem PRunsP.of_runs {bs : Bytes} {Q : PState → PState → Prop} (h : PRuns c bs Q) :
    PRunsP c bs (fun _ => True) (fun st st' => PFrame st st' ∧ Q st st') := by
  obtain ⟨is, hp, hnf, hr⟩ := h
  refine ⟨is, hp, hnf, fun st hpo _ => ?_⟩
  obtain ⟨st', e, f, q⟩ := hr st hpo
  exact ⟨st', e, f.proto, f, q⟩

theorem PRunsP.weaken {bs : Bytes} {P P' : PState → Prop} {Q Q' : PState → PState → Prop}
    (h : PRunsP c bs P Q) (hp : ∀ st, P' st → P st)
    (hq : ∀ st st', P' st → st'.proto = st.proto → Q st st' → Q' st st') : PRunsP c bs P' Q' := by
  obtain ⟨is, hpar, hnf, hr⟩ := h
  refine ⟨is, hpar, hnf, fun st hpo hpre => ?_⟩
  obtain ⟨st', e, f, q⟩ := hr st hpo (hp st hpre)
  exact ⟨st', e, f, hq st st' hpre f q⟩

theorem PRunsP.seq {b1 b2 : Bytes} {P1 P2 : PState → Prop} {Q1 Q2 : PState → PState → Prop}
    (h1 : PRunsP c b1 P1 Q1) (h2 : PRunsP c b2 P2 Q2)
    (hmid : ∀ st st1, P1 st → st1.proto = st.proto → Q1 st st1 → P2 st1) :
    PRunsP c (b1 ++ b2) P1 (fun st st2 => ∃ st1, st1.proto = st.proto ∧ Q1 st st1 ∧ Q2 st1 st2) := by
  obtain ⟨is1, hp1, hn1, hr1⟩ := h1
  obtain ⟨is2, hp2, hn2, hr2⟩ := h2
  refine ⟨is1 ++ is2, Parses.append hp1 hp2, by simp [noFrame_append, hn1, hn2], fun st hpo hpre => ?_⟩
  obtain ⟨st1, e1, f1, q1⟩ := hr1 st hpo hpre
  obtain ⟨st2, e2, f2, q2⟩ := hr2 st1 (hpo.of_proto f1) (hmid st st1 hpre f1 q1)
  refine ⟨st2, ?_, f2.trans f1, st1, f1, q1, q2⟩
  rw [prunFrom_append is1 is2 st st1 e1, e2]

theorem PRunsP.one {bs : Bytes} {i : Insn} {P : PState → Prop} {Q : PState → PState → Prop}
    (hp : Parses bs [i])
    (he : ∀ st, PProtoOK c st → P st → ∃ st', pexec i st = .ok st' ∧ st'.proto = st.proto ∧ Q st st')
    (hnf : i.isFrame = false := by rfl) :
    PRunsP c bs P Q := by
  refine ⟨[i], hp, by simp [noFrame, hnf], fun st hpo hpre => ?_⟩
  obtain ⟨st', e, f, q⟩ := he st hpo hpre
  exact ⟨st', by simp [prunFrom, e], f, q⟩

theorem PRunsP.nil {P : PState → Prop} {Q : PState → PState → Prop} (h : ∀ st, P st → Q st st) : PRunsP c [] P Q :=
  ⟨[], Parses.nil, rfl, fun st _ hp => ⟨st, rfl, rfl, h st hp⟩⟩

theorem PRunsP.snoc {b1 b2 : Bytes} {i : Insn} {P : PState → Prop} {Q1 Q : PState → PState → Prop}
    (h1 : PRunsP c b1 P Q1) (hp : Parses b2 [i])
    (he : ∀ st st', PProtoOK c st' → P st → st'.proto = st.proto → Q1 st st' →
      ∃ st'', pexec i st' = .ok st'' ∧ st''.proto = st'.proto ∧ Q st st'')
    (hnf : i.isFrame = false := by rfl) :
    PRunsP c (b1 ++ b2) P Q := by
  obtain ⟨is1, hp1, hn1, hr1⟩ := h1
  refine ⟨is1 ++ [i], Parses.append hp1 hp, by simp [noFrame_append, hn1, noFrame, hnf], fun st hpo hpre => ?_⟩
  obtain ⟨st1, e1, f1, q1⟩ := hr1 st hpo hpre
  obtain ⟨st2, e2, f2, q2⟩ := he st st1 (hpo.of_proto f1) hpre f1 q1
  refine ⟨st2, ?_, f2.trans f1, q2⟩
  rw [prunFrom_append is1 [i] st st1 e1]
  simp [prunFrom, e2]

theorem PRunsP.mark_then {b : Bytes} {P : PState → Prop} {Q : PState → PState → Prop} (h : PRunsP c b P Q) :
    PRunsP c (40 :: b) (fun st => P { st with stack := [], metas := st.stack :: st.metas })
      (fun st st' => Q { st with stack := [], metas := st.stack :: st.metas } st') := by
  obtain ⟨is, hp, hnf, hr⟩ := h
  refine ⟨.mark :: is, ?_, by simp [noFrame, hnf, Insn.isFrame], fun st hpo hpre => ?_⟩
  · have := Parses.append (parses_op 40 .mark rfl parseArg_40) hp
    simpa using this
  · obtain ⟨st', e, f, q⟩ := hr { st with stack := [], metas := st.stack :: st.metas } (hpo.of_proto rfl) hpre
    exact ⟨st', by simp [prunFrom, pexec, e], f, q⟩

end

/-- Unfolds to `AgreeL n h h'`: the `AgreeL` lemmas apply to it as they stand. -/
def PAgreeFrom (n : Nat) (h h' : List PObj) : Prop := ∀ i, n ≤ i → i < h.length → h'[i]? = h[i]?

theorem PAgreeFrom.append (n : Nat) (h t : List PObj) : PAgreeFrom n h (h ++ t) := AgreeL.append n h t

/-- Bytearray objects stay what they are (the machine never changes one; a bytearray fetched from the memo
    may be older than the container it is put into, so locality exempts them). -/
def KeepsBA (h h' : List PObj) : Prop := ∀ (i : Nat) (d : Bytes), h[i]? = some (PObj.bytearray d) → h'[i]? = some (PObj.bytearray d)

theorem KeepsBA.refl (h : List PObj) : KeepsBA h h := fun _ _ e => e

theorem KeepsBA.trans {h1 h2 h3 : List PObj} (a : KeepsBA h1 h2) (b : KeepsBA h2 h3) : KeepsBA h1 h3 :=
  fun i d e => b i d (a i d e)

theorem KeepsBA.append (h t : List PObj) : KeepsBA h (h ++ t) :=
  fun _ _ e => getElem?_append_of_some t e

theorem KeepsBA.set_list (h : List PObj) (id : Nat) (o : PObj) (ho : ∀ d, h[id]? ≠ some (.bytearray d)) : KeepsBA h (h.set id o) := by
  unfold KeepsBA
  intro i d e
  rw [List.getElem?_set]
  by_cases hi : id = i
  · subst hi; exact absurd e (ho d)
  · simp [hi, e]

mutual
/-- `PRep` with locality: every list and dict the value refers to lies at an index `≥ n`. -/
def PRepG (n : Nat) (heap : List PObj) (r : PyVal) : PyVal → Prop
  | .none => r = .none
  | .bool b => r = .bool b
  | .int i => r = .int i
  | .float f => r = .float f
  | .str s => r = .str s
  | .str2 s => r = .str2 s
  | .bytes s => r = .bytes s
  | .glob m n' => r = .glob m n'
  | .tuple xs => ∃ rs, r = .tuple rs ∧ PRepGList n heap rs xs
  | .call _ _ => False
  | .pers _ => False
  | .list xs => ∃ id rs, r = .obj id ∧ n ≤ id ∧ heap[id]? = some (.list rs) ∧ PRepGList n heap rs xs
  | .dict kvs => ∃ id es, r = .obj id ∧ n ≤ id ∧ heap[id]? = some (.dict es) ∧ PRepGEntries n heap es kvs
  | .bytearray s => ∃ id, r = .obj id ∧ heap[id]? = some (.bytearray s)
  | .obj _ | .cycle => False
def PRepGList (n : Nat) (heap : List PObj) : List PyVal → List PyVal → Prop
  | [], [] => True
  | r :: rs, x :: xs => PRepG n heap r x ∧ PRepGList n heap rs xs
  | _, _ => False
def PRepGEntries (n : Nat) (heap : List PObj) : List (PyVal × PyVal) → List (PyVal × PyVal) → Prop
  | [], [] => True
  | (rk, rv) :: es, (k, v) :: kvs => rk = k ∧ PRepG n heap rv v ∧ PRepGEntries n heap es kvs
  | _, _ => False
end

mutual
theorem PRepG.congr {n m : Nat} {h h' : List PObj} (a : PAgreeFrom n h h') (hb : KeepsBA h h') (hm : m ≤ n) (r : PyVal) :
    (v : PyVal) → PRepG n h r v → PRepG m h' r v
  | .none | .bool _ | .int _ | .float _ | .str _ | .str2 _ | .bytes _ | .glob _ _
  | .obj _ | .cycle | .call _ _ | .pers _ => id
  | .tuple xs => fun ⟨rs, e, hl⟩ => ⟨rs, e, PRepGList.congr a hb hm rs xs hl⟩
  | .list xs => fun ⟨id, rs, e, hge, hg, hl⟩ =>
    ⟨id, rs, e, Nat.le_trans hm hge, (a id hge (getElem?_lt_of_some hg)).trans hg, PRepGList.congr a hb hm rs xs hl⟩
  | .dict kvs => fun ⟨id, es, e, hge, hg, hp⟩ =>
    ⟨id, es, e, Nat.le_trans hm hge, (a id hge (getElem?_lt_of_some hg)).trans hg, PRepGEntries.congr a hb hm es kvs hp⟩
  | .bytearray s => fun ⟨id, e, hg⟩ => ⟨id, e, hb id s hg⟩
theorem PRepGList.congr {n m : Nat} {h h' : List PObj} (a : PAgreeFrom n h h') (hb : KeepsBA h h') (hm : m ≤ n) :
    (rs xs : List PyVal) → PRepGList n h rs xs → PRepGList m h' rs xs
  | [], [], _ => trivial
  | [], _ :: _, hr | _ :: _, [], hr => hr.elim
  | r :: rs, x :: xs, ⟨h1, h2⟩ => ⟨PRepG.congr a hb hm r x h1, PRepGList.congr a hb hm rs xs h2⟩
theorem PRepGEntries.congr {n m : Nat} {h h' : List PObj} (a : PAgreeFrom n h h') (hb : KeepsBA h h') (hm : m ≤ n) :
    (es kvs : List (PyVal × PyVal)) → PRepGEntries n h es kvs → PRepGEntries m h' es kvs
  | [], [], _ => trivial
  | [], _ :: _, hr | _ :: _, [], hr => hr.elim
  | (_, rv) :: es, (_, v) :: kvs, ⟨h1, h2, h3⟩ => ⟨h1, PRepG.congr a hb hm rv v h2, PRepGEntries.congr a hb hm es kvs h3⟩
end

mutual
theorem PRepG.toRep {n : Nat} {h : List PObj} (r : PyVal) : (v : PyVal) → PRepG n h r v → PRep h r v
  | .none | .bool _ | .int _ | .float _ | .str _ | .str2 _ | .bytes _ | .glob _ _ | .bytearray _ => id
  | .obj _ | .cycle | .call _ _ | .pers _ => False.elim
  | .tuple xs => fun ⟨rs, e, hl⟩ => ⟨rs, e, PRepGList.toRep rs xs hl⟩
  | .list xs => fun ⟨id, rs, e, _, hg, hl⟩ => ⟨id, rs, e, hg, PRepGList.toRep rs xs hl⟩
  | .dict kvs => fun ⟨id, es, e, _, hg, hp⟩ => ⟨id, es, e, hg, PRepGEntries.toRep es kvs hp⟩
theorem PRepGList.toRep {n : Nat} {h : List PObj} : (rs xs : List PyVal) → PRepGList n h rs xs → PRepList h rs xs
  | [], [], _ => trivial
  | [], _ :: _, hr | _ :: _, [], hr => hr.elim
  | r :: rs, x :: xs, ⟨h1, h2⟩ => ⟨PRepG.toRep r x h1, PRepGList.toRep rs xs h2⟩
theorem PRepGEntries.toRep {n : Nat} {h : List PObj} : (es kvs : List (PyVal × PyVal)) → PRepGEntries n h es kvs → PRepEntries h es kvs
  | [], [], _ => trivial
  | [], _ :: _, hr | _ :: _, [], hr => hr.elim
  | (_, rv) :: es, (_, v) :: kvs, ⟨h1, h2, h3⟩ => ⟨h1, PRepG.toRep rv v h2, PRepGEntries.toRep es kvs h3⟩
end

theorem PRepGList.length {n : Nat} {h : List PObj} {rs xs : List PyVal} (hr : PRepGList n h rs xs) : rs.length = xs.length :=
  PRepList.length (PRepGList.toRep rs xs hr)

theorem PRepGList.append {n : Nat} {h : List PObj} : {rs1 rs2 xs1 xs2 : List PyVal} →
    PRepGList n h rs1 xs1 → PRepGList n h rs2 xs2 → PRepGList n h (rs1 ++ rs2) (xs1 ++ xs2)
  | [], _, [], _, _, h2 => h2
  | [], _, _ :: _, _, h1, _ | _ :: _, _, [], _, h1, _ => h1.elim
  | _ :: _, _, _ :: _, _, ⟨h1, h1'⟩, h2 => ⟨h1, PRepGList.append h1' h2⟩

end Ogorek
