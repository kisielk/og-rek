import Ogorek.CPickleS
import Ogorek.Lemmas.RoundTrip
import Ogorek.Lemmas.CpRueInv

/-!
  What the model of CPython's pickler (`Ogorek/CPickle.lean`, `Ogorek/CPickleS.lean`) writes, as far as it does not
  depend on who reads it (og-rek's decoder or the model of CPython's unpickler): the instruction each form parses as, the
  batches of a list / dict as groups of items, and what it means that one of the `save` functions answers `some`.
-/
namespace Ogorek

/-- Protocol 0 writes floats as `repr` text: the decoder's float parser reads it back (Python's
    shortest-repr round trip, the counterpart of `FloatTextOK`; not proved). -/
def PyFloatTextOK (f : F64) : Prop :=
  parseFloatArg (pyFloatRepr f) = .ok (.pushFloat f) ∧ (10 : UInt8) ∉ pyFloatRepr f

theorem two_mul_lt_pow (m : Nat) : 2 * m < 256 ^ (m + 1) := by
  induction m with
  | zero => decide
  | succ m ih =>
    have : 256 ^ (m + 1 + 1) = 256 ^ (m + 1) * 256 := Nat.pow_succ ..
    have hpos : 0 < 256 ^ (m + 1) := Nat.pow_pos (by decide)
    omega

theorem fitsTwos_big (n : Int) : fitsTwos (n.natAbs + 1) n = true := by
  have h := two_mul_lt_pow n.natAbs
  have hc : ((256 ^ (n.natAbs + 1) : Nat) : Int) = (256 : Int) ^ (n.natAbs + 1) := by rw [Int.natCast_pow]; rfl
  simp only [fitsTwos, Bool.and_eq_true, decide_eq_true_eq]
  rw [← hc]
  omega

theorem long1WidthFrom_fits : (fuel k : Nat) → (n : Int) → (∃ j, j ≤ fuel ∧ fitsTwos (k + j) n = true) →
    fitsTwos (long1WidthFrom fuel k n) n = true ∧ k ≤ long1WidthFrom fuel k n
  | 0, k, n, ⟨j, hj, hf⟩ => by
    have : j = 0 := by omega
    subst this
    exact ⟨by simpa [long1WidthFrom] using hf, by simp [long1WidthFrom]⟩
  | fuel + 1, k, n, ⟨j, hj, hf⟩ => by
    unfold long1WidthFrom
    by_cases hk : fitsTwos k n = true
    · simp [hk]
    · simp only [hk, Bool.false_eq_true, if_false]
      have hj0 : j ≠ 0 := by
        intro h0; subst h0; exact hk (by simpa using hf)
      obtain ⟨h1, h2⟩ := long1WidthFrom_fits fuel (k + 1) n ⟨j - 1, by omega, by
        have : k + 1 + (j - 1) = k + j := by omega
        rw [this]; exact hf⟩
      exact ⟨h1, by omega⟩

theorem long1Width_fits (n : Int) : fitsTwos (long1Width n) n = true ∧ 0 < long1Width n := by
  obtain ⟨h1, h2⟩ := long1WidthFrom_fits (n.natAbs + 1) 1 n ⟨n.natAbs, by omega, by
    rw [Nat.add_comm]; exact fitsTwos_big n⟩
  exact ⟨h1, by unfold long1Width; omega⟩

theorem ecfg_ge (p k : Nat) : ((ecfg p).proto ≥ (k : Int)) ↔ p ≥ k := by
  simp only [ecfg, ge_iff_le]; omega

theorem fits32_inInt64 {i : Int} (h : fits32 i = true) : inInt64 i = true := by
  unfold fits32 at h
  unfold inInt64 minInt64 maxInt64
  simp only [Bool.and_eq_true, decide_eq_true_eq] at h ⊢
  constructor <;> omega

theorem parses_long1 (k : Nat) (i : Int) (hk : 0 < k) (hk2 : k < 256) (hf : fitsTwos k i = true) :
    Parses (0x8a :: UInt8.ofNat k :: twos k i) [.pushBig i] := by
  apply Parses.single rfl
  intro t
  simp only [fitsTwos, Bool.and_eq_true, decide_eq_true_eq] at hf
  have hkb : (UInt8.ofNat k).toNat = k := by simp [UInt8.toNat_ofNat']; omega
  have hc : readCounted1 (UInt8.ofNat k :: twos k i ++ t) = .ok (twos k i, t) := by
    rw [readCounted1, Rd.bind_ok rfl, hkb]
    have := copyN_exact (twos k i) t
    rwa [show (twos k i).length = k from natLE_length _ _] at this
  have := parseInsn_of parseArg_138 (Rd.map_ok _ hc)
  rwa [decodeLong_twos k i hk hf.1 hf.2] at this

theorem parses_cpFloat (p : Nat) (f : F64) (hok : p ≥ 1 ∨ PyFloatTextOK f) : Parses (cpFloat p f) [.pushFloat f] := by
  unfold cpFloat
  by_cases hp : p ≥ 1
  · simp only [hp, if_true]
    have hp' : (ecfg p).proto ≥ 1 := (ecfg_ge p 1).mpr hp
    have := parses_float_bin (ecfg p) f hp'
    simpa [encodeFloat, hp', flat_emit] using this
  · simp only [hp, if_false]
    obtain ⟨hparse, hlf⟩ := hok.resolve_left hp
    apply Parses.single rfl
    intro t
    have e : (70 :: pyFloatRepr f ++ [10]) ++ t = 70 :: (pyFloatRepr f ++ 10 :: t) := by simp
    rw [e]
    exact parseInsn_of parseArg_70 (Rd.mapE_ok (readLine_line _ _ hlf) hparse)

theorem parses_cpBytes (p : Nat) (s b : Bytes) (h : cpBytes p s = some b) : Parses b [.pushBytes s] := by
  unfold cpBytes at h
  by_cases hc : p ≥ 3 ∧ s.length < 2 ^ 32
  · simp only [hc, and_self, if_true, Option.some.injEq] at h
    subst h
    have hp' : (ecfg p).proto ≥ 3 := (ecfg_ge p 3).mpr hc.1
    have hpar := parses_bytes_hi (fun _ => false) (ecfg p) s hp' hc.2
    have e : flat (encodeBytes (fun _ => false) (ecfg p) s) =
        (if s.length < 256 then [67, UInt8.ofNat s.length] else 66 :: le4 s.length) ++ s := by
      simp only [encodeBytes, hp', if_true]
      split <;> simp [flat, Out.seq, emit]
    rw [e] at hpar
    exact hpar
  · simp [hc] at h

theorem parses_cpBytearray (p : Nat) (s b : Bytes) (hl : s.length < 2 ^ 32) (h : cpBytearray p s = some b) :
    Parses b [.pushBytearray s] := by
  unfold cpBytearray at h
  by_cases hc : p ≥ 5
  · simp only [hc, if_true, Option.some.injEq] at h
    subst h
    have hp' : (ecfg p).proto ≥ 5 := (ecfg_ge p 5).mpr hc
    have hpar := parses_bytearray_hi (fun _ => false) (ecfg p) s hp' hl
    have e : flat (encodeByteArray (fun _ => false) (ecfg p) s) = 0x96 :: le8 s.length ++ s := by
      simp [encodeByteArray, hp', flat, Out.seq, emit]
    rw [e] at hpar
    exact hpar
  · simp [hc] at h

theorem parses_cpStr (p : Nat) (txt b : Bytes) (h : cpStr p txt = some b) : Parses b [.pushStr txt] := by
  unfold cpStr at h
  by_cases hp : p ≥ 1
  · simp only [hp, if_true] at h
    by_cases hl : txt.length < 2 ^ 32
    · simp only [hl, if_true, Option.some.injEq] at h
      subst h
      exact parses_unicode_bin (ecfg p) txt ((ecfg_ge p 1).mpr hp) hl
    · simp [hl] at h
  · simp only [hp, if_false] at h
    cases hu : cpRue txt with
    | none => simp [hu] at h
    | some u =>
      simp only [hu, Option.some.injEq] at h
      subst h
      have hinv := cpRue_inv txt u hu
      have hlf := cpRue_no_lf txt u hu
      apply Parses.single rfl
      intro t
      have e : (86 :: u ++ [10]) ++ t = 86 :: (u ++ 10 :: t) := by simp
      rw [e]
      exact parseInsn_of parseArg_86 (Rd.mapE_ok (readLine_line _ _ hlf) (by rw [parseUnicodeArg, hinv]))

theorem parses_cpInt (p : Nat) (i : Int) (b : Bytes) (h : cpInt p i = some b) :
    Parses b [if fits32 i = true then .pushInt i else .pushBig i] := by
  unfold cpInt at h
  by_cases hf : fits32 i = true
  · simp only [hf, if_true, Option.some.injEq] at h ⊢
    subst h
    exact parses_int (ecfg p) i (fits32_inInt64 hf)
  · simp only [hf, Bool.false_eq_true, if_false] at h ⊢
    by_cases h2 : p ≥ 2
    · simp only [h2, if_true] at h
      by_cases hk : long1Width i < 256
      · simp only [hk, if_true, Option.some.injEq] at h
        subst h
        obtain ⟨hfit, hpos⟩ := long1Width_fits i
        exact parses_long1 _ i hpos hk hfit
      · simp [hk] at h
    · simp only [h2, if_false, Option.some.injEq] at h
      subst h
      exact parses_long i

theorem parses_global (m n : Bytes) (hm : (10 : UInt8) ∉ m) (hn : (10 : UInt8) ∉ n) :
    Parses (99 :: m ++ [10] ++ n ++ [10]) [.global m n] := by
  apply Parses.single rfl
  intro t
  have e : (99 :: m ++ [10] ++ n ++ [10]) ++ t = 99 :: (m ++ 10 :: (n ++ 10 :: t)) := by simp
  rw [e]
  exact parseInsn_of parseArg_99 ((Rd.bind_ok (readLine_line _ _ hm)).trans (Rd.map_ok _ (readLine_line _ _ hn)))

/-- What GLOBAL (and the Python machine) asks of a module or attribute name: no line feed in it, valid UTF-8. -/
def NameOK (x : Bytes) : Prop := (10 : UInt8) ∉ x ∧ validUtf8 x = true

/-- `NameOK` as a test that evaluates. -/
theorem NameOK.of_check {x : Bytes} (h : (!x.contains 10 && validUtf8 x) = true) : NameOK x := by
  simpa [NameOK] using h

theorem nameOK_globals (p : Int) : NameOK (pybuiltinModuleE p) ∧ NameOK (sb "bytes") ∧ NameOK (sb "bytearray") ∧
    NameOK (sb "_codecs") ∧ NameOK (sb "encode") := by
  unfold pybuiltinModuleE
  rw [sb_builtin2, sb_builtins, sb_bytes, sb_bytearray, sb_codecs, sb_encode]
  refine ⟨?_, ?_, ?_, ?_, ?_⟩
  · split <;> exact .of_check (by decide)
  all_goals exact .of_check (by decide)

/-- `n < 2 ^ 32`: LONG_BINPUT has four bytes. -/
theorem parses_cpPut (p n : Nat) :
    ∃ key, Parses (cpPut p n) [if p ≥ 4 then .memoize else .put key] ∧ (n < 2 ^ 32 → key = natDigits n) := by
  unfold cpPut
  by_cases h4 : p ≥ 4
  · simp only [h4, if_true]
    exact ⟨natDigits n, parses_op 0x94 .memoize rfl parseArg_148, fun _ => rfl⟩
  simp only [h4, if_false]
  by_cases h1 : p ≥ 1
  · rw [if_pos h1]
    by_cases hn : n < 256
    · rw [if_pos hn]
      exact ⟨memoKey n, Parses.single rfl fun t => (C02_memo_keys n t).1 hn, fun _ => rfl⟩
    rw [if_neg hn]
    refine ⟨memoKey (leNat (natLE 4 n)), Parses.single rfl fun t => ?_, fun h => ?_⟩
    · have e : (114 :: le4 n) ++ t = 114 :: (natLE 4 n ++ t) := by simp [le4]
      rw [e]
      exact parseInsn_of parseArg_114 (Rd.map_ok _ (readFull_exact 4 _ t (natLE_length 4 _)))
    · rw [leNat_natLE_of_lt (show n < 256 ^ 4 by omega)]; rfl
  rw [if_neg h1]
  exact ⟨memoKey n, Parses.single rfl fun t => by simpa using (C02_memo_keys n t).2.1, fun _ => rfl⟩

theorem parses_cpGet (p idx : Nat) : ∃ key, Parses (cpGet p idx) [.get key] ∧ (idx < 2 ^ 32 → key = natDigits idx) := by
  unfold cpGet
  by_cases h1 : p ≥ 1
  · rw [if_pos h1]
    by_cases hn : idx < 256
    · rw [if_pos hn]
      exact ⟨memoKey idx, Parses.single rfl fun t => (C02_memo_keys idx t).2.2.2.1 hn, fun _ => rfl⟩
    rw [if_neg hn]
    refine ⟨memoKey (leNat (natLE 4 idx)), Parses.single rfl fun t => ?_, fun h => ?_⟩
    · have e : (106 :: le4 idx) ++ t = 106 :: (natLE 4 idx ++ t) := by simp [le4]
      rw [e]
      exact parseInsn_of parseArg_106 (Rd.map_ok _ (readFull_exact 4 _ t (natLE_length 4 _)))
    · rw [leNat_natLE_of_lt (show idx < 256 ^ 4 by omega)]; rfl
  rw [if_neg h1]
  exact ⟨memoKey idx, Parses.single rfl fun t => by simpa using (C02_memo_keys idx t).2.2.2.2.1, fun _ => rfl⟩

/-- What one closing opcode of a batch takes: one item (fragment, object) before APPEND / SETITEM, or MARK and several
    before APPENDS / SETITEMS. -/
inductive Grp (α : Type) where
  | single (x : Bytes × α)
  | multi (xs : List (Bytes × α))

def Grp.items {α : Type} : Grp α → List (Bytes × α)
  | .single x => [x]
  | .multi xs => xs

/-- The bytes of a group; `c1`, `cn` are the single-item and the after-MARK opcode. -/
def encGrp {α : Type} (c1 cn : UInt8) : Grp α → Bytes
  | .single x => x.1 ++ [c1]
  | .multi xs => 40 :: (xs.map (·.1)).flatten ++ [cn]

def encGrps {α : Type} (c1 cn : UInt8) (gs : List (Grp α)) : Bytes := (gs.map (encGrp c1 cn)).flatten

def grpItems {α : Type} (gs : List (Grp α)) : List (Bytes × α) := (gs.map Grp.items).flatten

@[simp] theorem encGrps_nil {α : Type} (c1 cn : UInt8) : encGrps c1 cn ([] : List (Grp α)) = [] := rfl
@[simp] theorem encGrps_cons {α : Type} (c1 cn : UInt8) (g : Grp α) (gs : List (Grp α)) :
    encGrps c1 cn (g :: gs) = encGrp c1 cn g ++ encGrps c1 cn gs := by simp [encGrps]
@[simp] theorem grpItems_nil {α : Type} : grpItems ([] : List (Grp α)) = [] := rfl
@[simp] theorem grpItems_cons {α : Type} (g : Grp α) (gs : List (Grp α)) : grpItems (g :: gs) = g.items ++ grpItems gs := by
  simp [grpItems]

theorem singles_groups {α : Type} (c1 cn : UInt8) : (fk : List (Bytes × α)) →
    ((fk.map (·.1)).map (· ++ [c1])).flatten = encGrps c1 cn (fk.map Grp.single) ∧ grpItems (fk.map Grp.single) = fk
  | [] => by simp
  | x :: fk => by
    obtain ⟨e1, e2⟩ := singles_groups c1 cn fk
    simp only [List.map_cons, List.flatten_cons, encGrps_cons, grpItems_cons, e1, e2, encGrp, Grp.items]
    simp

theorem batchListLoop_groups {α : Type} : (fuel : Nat) → (fk : List (Bytes × α)) → fk.length ≤ fuel →
    ∃ gs : List (Grp α), cpBatchListLoop fuel (fk.map (·.1)) = encGrps 97 101 gs ∧ grpItems gs = fk
  | 0, [], _ | _ + 1, [], _ => ⟨[], by simp [cpBatchListLoop], rfl⟩
  | 0, _ :: _, h => by simp at h
  | fuel + 1, x :: fk, h => by
    obtain ⟨gs, e1, e2⟩ := batchListLoop_groups fuel ((x :: fk).drop batchSize) (by simp [batchSize] at h ⊢; omega)
    refine ⟨.multi ((x :: fk).take batchSize) :: gs, ?_, by simp [Grp.items, e2]⟩
    rw [List.map_drop, List.map_cons] at e1
    simp [cpBatchListLoop, encGrp, e1]

theorem pyBatchLoop_groups {α : Type} (c1 cn : UInt8) : (fuel : Nat) → (fk : List (Bytes × α)) → fk.length < fuel →
    ∃ gs : List (Grp α), pyBatchLoop c1 cn fuel (fk.map (·.1)) = encGrps c1 cn gs ∧ grpItems gs = fk
  | 0, _, h => by omega
  | fuel + 1, fk, h => by
    obtain ⟨gs', er, ei⟩ : ∃ gs' : List (Grp α),
        (if (fk.take batchSize).length < batchSize then [] else pyBatchLoop c1 cn fuel ((fk.drop batchSize).map (·.1))) = encGrps c1 cn gs' ∧
        grpItems gs' = fk.drop batchSize := by
      by_cases hl : (fk.take batchSize).length < batchSize
      · rw [if_pos hl]
        exact ⟨[], rfl, (List.drop_eq_nil_of_le (by rw [List.length_take] at hl; omega)).symm⟩
      · rw [if_neg hl]
        exact pyBatchLoop_groups c1 cn fuel (fk.drop batchSize) (by rw [List.length_take] at hl; simp [batchSize] at hl ⊢; omega)
    have hfk : fk.take batchSize ++ fk.drop batchSize = fk := List.take_append_drop _ _
    unfold pyBatchLoop
    rw [← List.map_take, ← List.map_drop, List.length_map, er]
    -- the first batch: nothing, one item, several
    rcases htk : fk.take batchSize with _ | ⟨x, _ | ⟨y, r⟩⟩ <;> rw [htk] at hfk
    · exact ⟨gs', by simp, by rw [ei]; simpa using hfk⟩
    · exact ⟨.single x :: gs', by simp [encGrp], by simp [Grp.items, ei, hfk]⟩
    · exact ⟨.multi (x :: y :: r) :: gs', by simp [encGrp], by simp [Grp.items, ei, hfk]⟩

theorem batchList_groups {α : Type} (py : Bool) (p : Nat) (fk : List (Bytes × α)) :
    ∃ gs : List (Grp α), cpBatchList py p (fk.map (·.1)) = encGrps 97 101 gs ∧ grpItems gs = fk := by
  unfold cpBatchList
  by_cases hp : p = 0
  · rw [if_pos hp]
    exact ⟨_, singles_groups 97 101 fk⟩
  rw [if_neg hp]
  cases py
  · rw [if_neg Bool.false_ne_true]
    match fk with
    | [] => exact ⟨[], rfl, rfl⟩
    | [x] => exact ⟨[.single x], by simp [encGrp], by simp [Grp.items]⟩
    | x :: y :: r => simpa using batchListLoop_groups (x :: y :: r).length (x :: y :: r) (Nat.le_refl _)
  · rw [if_pos rfl, List.length_map]
    exact pyBatchLoop_groups 97 101 (fk.length + 1) fk (Nat.lt_succ_self _)

theorem batchDictLoop_groups {α : Type} : (fuel : Nat) → (fk : List (Bytes × α)) → fk.length < fuel →
    ∃ gs : List (Grp α), cpBatchDictLoop fuel (fk.map (·.1)) = encGrps 115 117 gs ∧ grpItems gs = fk
  | 0, _, h => by omega
  | fuel + 1, fk, h => by
    unfold cpBatchDictLoop
    rw [List.length_map]
    by_cases hl : fk.length ≥ batchSize
    · obtain ⟨gs, e1, e2⟩ := batchDictLoop_groups fuel (fk.drop batchSize) (by simp [batchSize] at hl ⊢; omega)
      rw [List.map_drop] at e1
      exact ⟨.multi (fk.take batchSize) :: gs, by simp [hl, encGrp, e1], by simp [Grp.items, e2]⟩
    · rw [if_neg hl, List.take_of_length_le (by simp; omega)]
      exact ⟨[.multi fk], by simp [encGrp], by simp [Grp.items]⟩

theorem batchDict_groups {α : Type} (py : Bool) (p : Nat) (fk : List (Bytes × α)) :
    ∃ gs : List (Grp α), cpBatchDict py p (fk.map (·.1)) = encGrps 115 117 gs ∧ grpItems gs = fk := by
  unfold cpBatchDict
  by_cases hp : p = 0
  · rw [if_pos hp]
    exact ⟨_, singles_groups 115 117 fk⟩
  rw [if_neg hp]
  cases py
  · rw [if_neg Bool.false_ne_true]
    match fk with
    | [] => exact ⟨[], rfl, rfl⟩
    | [x] => exact ⟨[.single x], by simp [encGrp], by simp [Grp.items]⟩
    | x :: y :: r => simpa using batchDictLoop_groups ((x :: y :: r).length + 1) (x :: y :: r) (Nat.lt_succ_self _)
  · rw [if_pos rfl, List.length_map]
    exact pyBatchLoop_groups 115 117 (fk.length + 1) fk (Nat.lt_succ_self _)

theorem flatten_map_singleton {α β : Type} (f : α → β) : (l : List α) → (l.map fun x => [f x]).flatten = l.map f
  | [] => rfl
  | x :: l => by simp [flatten_map_singleton f l]

theorem groups_zip {α : Type} {c1 cn : UInt8} {B : List Bytes → Bytes}
    (hB : ∀ fk : List (Bytes × α), ∃ gs : List (Grp α), B (fk.map (·.1)) = encGrps c1 cn gs ∧ grpItems gs = fk)
    (fs : List Bytes) (xs : List α) (hl : fs.length = xs.length) :
    ∃ gs : List (Grp α), B fs = encGrps c1 cn gs ∧ (grpItems gs).map (·.1) = fs ∧ (grpItems gs).map (·.2) = xs := by
  obtain ⟨gs, e1, e2⟩ := hB (fs.zip xs)
  have hfst : (fs.zip xs).map (·.1) = fs := List.map_fst_zip (by omega)
  exact ⟨gs, by rw [← e1, hfst], by rw [e2, hfst], by rw [e2, List.map_snd_zip (by omega)]⟩

theorem PSt.find_mem {s : PSt} {k : PKey} {idx : Nat} (h : s.find k = some idx) : (k, idx) ∈ s.tab := by
  obtain ⟨⟨a, b⟩, hf, rfl⟩ := Option.map_eq_some_iff.mp h
  have hp := List.find?_some hf
  simp only [decide_eq_true_eq] at hp
  subst hp
  exact List.mem_of_find?_eq_some hf

theorem PSt.mem_put {s : PSt} {key : Option PKey} {k : PKey} {idx : Nat} (h : (k, idx) ∈ (s.put key).tab) :
    (key = some k ∧ idx = s.n) ∨ (k, idx) ∈ s.tab := by
  cases key with
  | none => exact .inr h
  | some k0 =>
    simp only [PSt.put, List.mem_cons, Prod.mk.injEq] at h
    exact h.imp (fun e => ⟨congrArg some e.1.symm, e.2⟩) id

section
variable {mz : Option PKey → Bool} {py : Bool} {p : Nat} {s s' : PSt} {b : Bytes}

theorem putS_some {key : Option PKey} (h : putS mz p s key = some (b, s')) :
    (s.n < 2 ^ 32 ∧ b = cpPut p s.n ∧ s' = s.put key) ∨ (b = [] ∧ s = s') := by
  unfold putS putS1 at h
  by_cases hmz : mz key = true
  · rw [if_pos hmz] at h
    by_cases hn : s.n < 2 ^ 32
    · rw [if_pos hn] at h
      cases h
      exact .inl ⟨hn, rfl, rfl⟩
    · rw [if_neg hn] at h
      cases h
  · rw [if_neg hmz] at h
    cases h
    exact .inr ⟨rfl, rfl⟩

theorem saveStrS_some {key putKey : Option PKey} {txt : Bytes} (h : saveStrS mz p s key putKey txt = some (b, s')) :
    (∃ idx, key.bind s.find = some idx ∧ b = cpGet p idx ∧ s = s') ∨
    ∃ b0 pb, cpStr p txt = some b0 ∧ putS mz p s putKey = some (pb, s') ∧ b = b0 ++ pb := by
  unfold saveStrS at h
  split at h
  next idx hfind => cases h; exact .inl ⟨idx, hfind, rfl, rfl⟩
  split at h
  next b0 hcs =>
    split at h
    next pb s1 hput => cases h; exact .inr ⟨b0, pb, hcs, hput, rfl⟩
    cases h
  cases h

theorem saveGlobalS_some {key : PKey} {m n : Bytes} (h : saveGlobalS mz p s key m n = some (b, s')) :
    (∃ idx, s.find key = some idx ∧ b = cpGet p idx ∧ s = s') ∨
    (∃ b1 s1 b2 s2 pb, saveStrS mz p s none none m = some (b1, s1) ∧ saveStrS mz p s1 none none n = some (b2, s2) ∧
      putS mz p s2 (some key) = some (pb, s') ∧ b = b1 ++ b2 ++ [0x93] ++ pb) ∨
    ∃ pb, putS mz p s (some key) = some (pb, s') ∧ b = 99 :: m ++ [10] ++ n ++ [10] ++ pb := by
  unfold saveGlobalS at h
  split at h
  next idx hfind => cases h; exact .inl ⟨idx, hfind, rfl, rfl⟩
  by_cases h4 : p ≥ 4
  · rw [if_pos h4] at h
    split at h
    next b1 s1 h1 =>
      split at h
      next b2 s2 h2 =>
        split at h
        next pb s3 hp => cases h; exact .inr (.inl ⟨b1, s1, b2, s2, pb, h1, h2, hp, rfl⟩)
        cases h
      cases h
    cases h
  rw [if_neg h4] at h
  split at h
  next pb s3 hp => cases h; exact .inr (.inr ⟨pb, hp, rfl⟩)
  cases h

theorem saveBytesS_some {key : Option PKey} {d : Bytes} (h : saveBytesS mz p s key d = some (b, s')) :
    (∃ idx, key.bind s.find = some idx ∧ b = cpGet p idx ∧ s = s') ∨
    (∃ b0 pb, cpBytes p d = some b0 ∧ putS mz p s key = some (pb, s') ∧ b = b0 ++ pb) ∨
    (∃ g s1 pb, d = [] ∧ saveGlobalS mz p s .gBytes (pybuiltinModuleE p) (sb "bytes") = some (g, s1) ∧
      putS mz p s1 key = some (pb, s') ∧ b = g ++ emptyTupleBytes p ++ [82] ++ pb) ∨
    ∃ g s1 b1 s2 b2 s3 pt s4 pb, saveGlobalS mz p s .gEncode (sb "_codecs") (sb "encode") = some (g, s1) ∧
      saveStrS mz p s1 none none (latin1ToUtf8 d) = some (b1, s2) ∧
      saveStrS mz p s2 (some .sLatin1) (some .sLatin1) (sb "latin1") = some (b2, s3) ∧
      putS mz p s3 none = some (pt, s4) ∧ putS mz p s4 key = some (pb, s') ∧
      b = g ++ ((if p ≥ 2 then [] else [40]) ++ (b1 ++ b2) ++ [if p ≥ 2 then 0x86 else 116] ++ pt) ++ [82] ++ pb := by
  unfold saveBytesS at h
  split at h
  next idx hfind => cases h; exact .inl ⟨idx, hfind, rfl, rfl⟩
  by_cases h3 : p ≥ 3
  · rw [if_pos h3] at h
    split at h
    next b0 hcb =>
      split at h
      next pb s1 hput => cases h; exact .inr (.inl ⟨b0, pb, hcb, hput, rfl⟩)
      cases h
    cases h
  rw [if_neg h3] at h
  by_cases hemp : d.isEmpty = true
  · rw [if_pos hemp] at h
    split at h
    next g s1 hg =>
      split at h
      next pb s2 hput => cases h; exact .inr (.inr (.inl ⟨g, s1, pb, List.isEmpty_iff.mp hemp, hg, hput, rfl⟩))
      cases h
    cases h
  rw [if_neg hemp] at h
  split at h
  next g s1 hg =>
    split at h
    next b1 s2 h1 =>
      split at h
      next b2 s3 h2 =>
        split at h
        next pt s4 hpt =>
          split at h
          next pb s5 hput => cases h; exact .inr (.inr (.inr ⟨g, s1, b1, s2, b2, s3, pt, s4, pb, hg, h1, h2, hpt, hput, rfl⟩))
          cases h
        cases h
      cases h
    cases h
  cases h

theorem saveBytearrayS_some {key : Option PKey} {d : Bytes} (h : saveBytearrayS mz p s key d = some (b, s')) :
    (∃ idx, key.bind s.find = some idx ∧ b = cpGet p idx ∧ s = s') ∨
    (∃ b0 pb, cpBytearray p d = some b0 ∧ putS mz p s key = some (pb, s') ∧ b = b0 ++ pb) ∨
    ∃ g s1, saveGlobalS mz p s .gBytearray (pybuiltinModuleE p) (sb "bytearray") = some (g, s1) ∧
      ((∃ pb, d = [] ∧ putS mz p s1 key = some (pb, s') ∧ b = g ++ emptyTupleBytes p ++ [82] ++ pb) ∨
       ∃ bb s2 pt s3 pb, saveBytesS mz p s1 none d = some (bb, s2) ∧ putS mz p s2 none = some (pt, s3) ∧
         putS mz p s3 key = some (pb, s') ∧
         b = g ++ ((if p ≥ 2 then [] else [40]) ++ bb ++ [if p ≥ 2 then 0x85 else 116] ++ pt) ++ [82] ++ pb) := by
  unfold saveBytearrayS at h
  split at h
  next idx hfind => cases h; exact .inl ⟨idx, hfind, rfl, rfl⟩
  by_cases h5 : p ≥ 5
  · rw [if_pos h5] at h
    split at h
    next b0 hcb =>
      split at h
      next pb s1 hput => cases h; exact .inr (.inl ⟨b0, pb, hcb, hput, rfl⟩)
      cases h
    cases h
  rw [if_neg h5] at h
  split at h
  next g s1 hg =>
    refine .inr (.inr ⟨g, s1, hg, ?_⟩)
    by_cases hemp : d.isEmpty = true
    · rw [if_pos hemp] at h
      split at h
      next pb s2 hput => cases h; exact .inl ⟨pb, List.isEmpty_iff.mp hemp, hput, rfl⟩
      cases h
    rw [if_neg hemp] at h
    split at h
    next bb s2 hb =>
      split at h
      next pt s3 hpt =>
        split at h
        next pb s4 hput => cases h; exact .inr ⟨bb, s2, pt, s3, pb, hb, hpt, hput, rfl⟩
        cases h
      cases h
    cases h
  cases h

theorem eraseList_length : (xs : List PyObjS) → (eraseList xs).length = xs.length
  | [] => rfl
  | _ :: xs => by simp [eraseList, eraseList_length xs]

theorem cpSaveS_tuple_some {xs : List PyObjS} (h : cpSaveS mz py p (.tuple xs) s = some (b, s')) :
    (xs = [] ∧ b = emptyTupleBytes p ∧ s = s') ∨
    (1 ≤ xs.length ∧ ∃ fs s1 pb, cpSaveListS mz py p xs s = some (fs, s1) ∧ putS mz p s1 none = some (pb, s') ∧
      b = (if p ≥ 2 ∧ xs.length ≤ 3 then [] else [40]) ++ fs.flatten ++
        (if p ≥ 2 ∧ xs.length ≤ 3 then [if xs.length = 1 then 0x85 else if xs.length = 2 then 0x86 else 0x87] else [116]) ++ pb) := by
  dsimp only [cpSaveS] at h
  by_cases hemp : xs.isEmpty = true
  · rw [if_pos hemp] at h
    cases h
    exact .inl ⟨List.isEmpty_iff.mp hemp, rfl, rfl⟩
  rw [if_neg hemp] at h
  split at h
  next fs s1 hsl =>
    split at h
    next pb s2 hput =>
      cases h
      exact .inr ⟨List.length_pos_iff.mpr fun e => hemp (e ▸ rfl), fs, s1, pb, hsl, hput, rfl⟩
    cases h
  cases h

theorem cpSaveS_list_some {xs : List PyObjS} (h : cpSaveS mz py p (.list xs) s = some (b, s')) :
    ∃ pb s1 fs, putS mz p s none = some (pb, s1) ∧ cpSaveListS mz py p xs s1 = some (fs, s') ∧
      b = (if p ≥ 1 then [93] else [40, 108]) ++ pb ++ cpBatchList py p fs := by
  dsimp only [cpSaveS] at h
  split at h
  next pb s1 hput =>
    split at h
    next fs s2 hsl => cases h; exact ⟨pb, s1, fs, hput, hsl, rfl⟩
    cases h
  cases h

theorem cpSaveS_dict_some {kvs : List (PyObjS × PyObjS)} (h : cpSaveS mz py p (.dict kvs) s = some (b, s')) :
    ∃ pb s1 fs, putS mz p s none = some (pb, s1) ∧ cpSavePairsS mz py p kvs s1 = some (fs, s') ∧
      b = (if p ≥ 1 then [125] else [40, 100]) ++ pb ++ cpBatchDict py p fs := by
  dsimp only [cpSaveS] at h
  split at h
  next pb s1 hput =>
    split at h
    next fs s2 hsl => cases h; exact ⟨pb, s1, fs, hput, hsl, rfl⟩
    cases h
  cases h

theorem cpSaveListS_cons_some {x : PyObjS} {xs : List PyObjS} {fs : List Bytes} (h : cpSaveListS mz py p (x :: xs) s = some (fs, s')) :
    ∃ b s1 fs2, cpSaveS mz py p x s = some (b, s1) ∧ cpSaveListS mz py p xs s1 = some (fs2, s') ∧ fs = b :: fs2 := by
  dsimp only [cpSaveListS] at h
  split at h
  next b s1 h1 =>
    split at h
    next fs2 s2 h2 => cases h; exact ⟨b, s1, fs2, h1, h2, rfl⟩
    cases h
  cases h

theorem cpSavePairsS_cons_some {k v : PyObjS} {kvs : List (PyObjS × PyObjS)} {fs : List Bytes}
    (h : cpSavePairsS mz py p ((k, v) :: kvs) s = some (fs, s')) :
    ∃ bk s1 bv s2 fs3, cpSaveS mz py p k s = some (bk, s1) ∧ cpSaveS mz py p v s1 = some (bv, s2) ∧
      cpSavePairsS mz py p kvs s2 = some (fs3, s') ∧ fs = (bk ++ bv) :: fs3 := by
  dsimp only [cpSavePairsS] at h
  split at h
  next bk s1 h1 =>
    split at h
    next bv s2 h2 =>
      split at h
      next fs3 s3 h3 => cases h; exact ⟨bk, s1, bv, s2, fs3, h1, h2, h3, rfl⟩
      cases h
    cases h
  cases h

end

end Ogorek
