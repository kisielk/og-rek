import Ogorek.Lemmas.WFLemmas
import Ogorek.Lemmas.Rep

/-! A decode result whose unfolding (`resolveV`) meets no cycle represents that unfolding: the link from what `Decode`
    returns to the `Rep` hypothesis of the round-trip theorems (C05). -/
namespace Ogorek

mutual
/-- No `#cycle` cut inside: the resolution went all the way down. -/
def noCycle : GoVal → Bool
  | .cycle => false
  | .list xs | .tuple xs => noCycleList xs
  | .call _ _ args => noCycleList args
  | .ref p => noCycle p
  | .map kvs | .dict kvs => noCyclePairs kvs
  | _ => true
def noCycleList : List GoVal → Bool
  | [] => true
  | x :: xs => noCycle x && noCycleList xs
def noCyclePairs : List (GoVal × GoVal) → Bool
  | [] => true
  | (k, v) :: r => noCycle k && noCycle v && noCyclePairs r
end

theorem noCycleList_map {f : GoVal → GoVal} : (xs : List GoVal) → noCycleList (xs.map f) = true → ∀ x ∈ xs, noCycle (f x) = true
  | [], _ => fun _ hy => nomatch hy
  | x :: xs, h => by
    have h := Bool.and_eq_true_iff.mp h
    intro y hy
    rcases List.mem_cons.mp hy with rfl | hy
    · exact h.1
    · exact noCycleList_map xs h.2 y hy

theorem repList_map {mc : MCfg} {ρ : GoVal → GoVal} {h : List HObj} {f : GoVal → GoVal} : (xs : List GoVal) → (∀ x ∈ xs, Rep mc ρ h x (f x)) →
    RepList mc ρ h xs (xs.map f)
  | [], _ => trivial
  | x :: xs, hx => ⟨hx x List.mem_cons_self, repList_map xs fun y hy => hx y (List.mem_cons_of_mem _ hy)⟩

theorem noCyclePairs_map {f : GoVal → GoVal} : (kvs : Entries) →
    noCyclePairs (kvs.map fun kv => (f kv.1, f kv.2)) = true → ∀ kv ∈ kvs, noCycle (f kv.1) = true ∧ noCycle (f kv.2) = true
  | [], _ => fun _ hkv => nomatch hkv
  | (k, v) :: kvs, h => by
    have h := Bool.and_eq_true_iff.mp h
    intro kv hkv
    rcases List.mem_cons.mp hkv with rfl | hkv
    · exact Bool.and_eq_true_iff.mp h.1
    · exact noCyclePairs_map kvs h.2 kv hkv

theorem repPairs_map {mc : MCfg} {ρ : GoVal → GoVal} {h : List HObj} {f : GoVal → GoVal} : (kvs : Entries) →
    (∀ kv ∈ kvs, Rep mc ρ h kv.1 (f kv.1) ∧ Rep mc ρ h kv.2 (f kv.2)) → RepPairs mc ρ h kvs (kvs.map fun kv => (f kv.1, f kv.2))
  | [], _ => trivial
  | (k, v) :: kvs, hx =>
    ⟨(hx (k, v) List.mem_cons_self).1, (hx (k, v) List.mem_cons_self).2, repPairs_map kvs fun y hy => hx y (List.mem_cons_of_mem _ hy)⟩

theorem rep_resolve (c : Cfg) (st : DState) (hinv : Inv (goCfg c) false st)
    (hxs : ∀ o ∈ st.heap, o.kind ≠ .list → o.xs = []) :
    ∀ (fuel : Nat) (v : GoVal), wfVal c false st.heap.length v = true → noCycle (resolveV st.heap fuel v) = true →
      Rep (goCfg c) GoVal.ref st.heap v (resolveV st.heap fuel v) := by
  intro fuel
  induction fuel with
  | zero => intro v _ hn; simp [resolveV, noCycle] at hn
  | succ f ih =>
    intro v hv hn
    cases v with
    | none | bool _ | int _ | float _ | str _ | bytes _ | bytearray _ | cls _ _ => exact rfl
    | big id i => exact ⟨id, rfl⟩
    | bytestr s =>
      have : c.su = true := by simpa [wfVal] using hv
      exact (if_pos this).symm
    | list xs | tuple xs | call _ _ xs =>
      simp only [wfVal_list, wfVal_tuple, wfVal_call, List.all_eq_true] at hv
      exact ⟨xs, rfl, repList_map xs fun x hx => ih x (hv x hx) (noCycleList_map xs hn x hx)⟩
    | ref p =>
      rw [wfVal_ref] at hv
      exact ⟨p, rfl, rfl, ih p hv hn⟩
    | href id =>
      simp only [resolveV] at hn ⊢
      split at hn
      · simp [noCycle] at hn
      · rename_i o ho
        have hw := heap_get_wf hinv ho
        unfold wfObj at hw
        simp only [Bool.and_eq_true, List.all_eq_true, goCfg, Bool.and_false, Bool.or_false] at hw
        obtain ⟨⟨hk, hkv⟩, _⟩ := hw
        have hkind : o.kind = dictKind c := by simpa using hk
        have hd : o.kind = .dict ∨ o.kind = .map := by rw [hkind]; unfold dictKind; split <;> simp
        have hox := hxs o (List.mem_of_getElem? ho) (by rcases hd with hd | hd <;> simp [hd])
        have hobj : o = { kind := dictKind c, kvs := o.kvs } := by
          obtain ⟨kind, kvs, xs⟩ := o
          cases hkind; cases hox; rfl
        rcases hd with hd | hd <;>
        · simp only [hd] at hn ⊢
          exact ⟨id, o.kvs, rfl, by rw [ho]; exact congrArg some hobj, repPairs_map o.kvs fun kv hkv' =>
            ⟨ih _ (hkv kv hkv').1 (noCyclePairs_map o.kvs hn kv hkv').1, ih _ (hkv kv hkv').2 (noCyclePairs_map o.kvs hn kv hkv').2⟩⟩
    | mark | uint _ | complex _ _ | map _ | dict _ | cycle | nil | user _ => simp [wfVal] at hv

end Ogorek
