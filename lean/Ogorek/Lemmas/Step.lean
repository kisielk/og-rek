import Ogorek.Lemmas.NoPanic

/-!
  What one instruction does.  `Step` lists the successful transitions of `exec` with the shape of the stack made
  explicit (no length tests, no `xpop`); `exec_outcome` says that `exec` either makes one of these steps or fails with
  an error that is not a panic.  The invariants of the decoder (C16 well-formedness, C18 hook log, the key invariant
  of the heap) are each one case analysis over `Step`.  In the other direction `exec_setitem`, `exec_reduce`,
  `exec_stackGlobal`, `exec_tupleN`, `exec_pushByteString` say what an instruction does on a stack of the right shape:
  the proofs that run a known program (round trip, the pickler's output) step with these.
-/
namespace Ogorek

theorem userOK_eq (v : GoVal) : userOK v = if isMark v then .error .markExposed else .ok () := by
  cases v <;> rfl

theorem userOK_ok {v : GoVal} (h : userOK v = .ok ()) : isMark v = false := by
  rw [userOK_eq] at h
  split at h
  · cases h
  · rename_i hm; exact Bool.eq_false_iff.mpr hm

theorem userOK_of_not_mark {v : GoVal} (h : isMark v = false) : userOK v = .ok () := by
  rw [userOK_eq, h]; rfl

theorem userOK_np (v : GoVal) : NoPanic (userOK v) := by
  rw [userOK_eq]; split <;> nofun

theorem userOKAll_ok : ∀ {vs : List GoVal}, userOKAll vs = .ok () → ∀ v ∈ vs, isMark v = false
  | x :: xs, h, v, hv => by
    cases hx : userOK x with
    | error e => rw [userOKAll, hx] at h; cases h
    | ok u =>
      rw [userOKAll, hx] at h
      rcases List.mem_cons.mp hv with rfl | hv
      · exact userOK_ok hx
      · exact userOKAll_ok h v hv

theorem userOKAll_of_not_mark : (vs : List GoVal) → (∀ v ∈ vs, isMark v = false) → userOKAll vs = .ok ()
  | [], _ => rfl
  | v :: vs, h => by
    rw [userOKAll, userOK_of_not_mark (h v List.mem_cons_self)]
    exact userOKAll_of_not_mark vs fun x hx => h x (List.mem_cons_of_mem _ hx)

theorem userOKAll_np : ∀ vs : List GoVal, NoPanic (userOKAll vs)
  | [] => nofun
  | v :: vs => NoPanic.bind (userOK_np v) fun _ _ => userOKAll_np vs

theorem pop_np (st : DState) : NoPanic (pop st) := by
  unfold pop; split <;> nofun

theorem popUser_np (st : DState) : NoPanic (popUser st) :=
  NoPanic.bind (pop_np st) fun _ _ => NoPanic.bind (userOK_np _) fun _ _ => NoPanic.pure _

theorem popUser_cons {st : DState} {v : GoVal} {s : List GoVal} (hs : st.stack = v :: s) (hm : isMark v = false) :
    popUser st = .ok (v, { st with stack := s }) := by
  simp only [popUser, pop, hs, bind, Except.bind, userOK_of_not_mark hm]; rfl

theorem popUser_ok {st st' : DState} {v : GoVal} (h : popUser st = .ok (v, st')) :
    ∃ s, st.stack = v :: s ∧ isMark v = false ∧ st' = { st with stack := s } := by
  obtain ⟨stk, memo, heap, proto, nbig, calls⟩ := st
  cases stk with
  | nil => cases h
  | cons x s =>
    cases hu : userOK x with
    | error e => simp only [popUser, pop, bind, Except.bind, hu] at h; cases h
    | ok u =>
      simp only [popUser, pop, bind, Except.bind, hu] at h
      cases h
      exact ⟨s, rfl, userOK_ok hu, rfl⟩

theorem handleRef_np (hook : Hook) (st : DState) (r : GoVal) : NoPanic (handleRef hook st r) := by
  unfold handleRef
  split
  · nofun
  · dsimp only
    split <;> nofun

theorem forall_some_ite {Q : α → Prop} {c : Prop} [Decidable c] {a b : Option α} (ha : ∀ r, a = some r → Q r)
    (hb : ∀ r, b = some r → Q r) : ∀ r, (if c then a else b) = some r → Q r := by
  split <;> assumption

theorem handleCall_some {proto : Nat} {m n : Bytes} {argv : List GoVal} :
    ∀ r, handleCall proto m n argv = some r → r = .error .other ∨ ∃ d, r = .ok (.bytes d) ∨ r = .ok (.bytearray d) := by
  unfold handleCall
  repeat' with_reducible apply forall_some_ite
  all_goals intro r h
  all_goals try split at h
  all_goals cases h
  all_goals first | exact .inl rfl | exact .inr ⟨_, .inl rfl⟩ | exact .inr ⟨_, .inr rfl⟩

theorem handleCall_np {proto : Nat} {m n : Bytes} {argv : List GoVal} {r : M GoVal}
    (h : handleCall proto m n argv = some r) : NoPanic r := by
  rcases handleCall_some r h with rfl | ⟨d, rfl | rfl⟩ <;> nofun

inductive Step (mc : MCfg) (hook : Hook) (st : DState) : Insn → DState → Prop
  | mark : Step mc hook st .mark (push st .mark)
  | stop : Step mc hook st .stop st
  | pop {v s} : st.stack = v :: s → Step mc hook st .pop { st with stack := s }
  | dup {v s} : st.stack = v :: s → Step mc hook st .dup (push st v)
  | pushFloat f : Step mc hook st (.pushFloat f) (push st (.float f))
  | pushBool b : Step mc hook st (.pushBool b) (push st (.bool b))
  | pushInt i : Step mc hook st (.pushInt i) (push st (.int i))
  | pushBig i : Step mc hook st (.pushBig i) (push { st with nbig := st.nbig + 1 } (.big st.nbig i))
  | pushNone : Step mc hook st .pushNone (push st .none)
  | persid {s st'} : handleRef hook st (.ref (.str s)) = .ok st' → Step mc hook st (.persid s) st'
  | binpersid {pid s st'} : st.stack = pid :: s → isMark pid = false →
      handleRef hook { st with stack := s } (.ref pid) = .ok st' → Step mc hook st .binpersid st'
  | reduce {args m n s v} : st.stack = .tuple args :: .cls m n :: s →
      handleCall st.proto m n args = some (.ok v) ∨ handleCall st.proto m n args = none ∧ v = .call m n args →
      Step mc hook st .reduce (push { st with stack := s } v)
  | pushByteString s : Step mc hook st (.pushByteString s) (push st (if mc.cfg.su then .bytestr s else .str s))
  | pushStr s : Step mc hook st (.pushStr s) (push st (.str s))
  | pushBytes s : Step mc hook st (.pushBytes s) (push st (.bytes s))
  | pushBytearray s : Step mc hook st (.pushBytearray s) (push st (.bytearray s))
  | append {v l below st1 l'} : st.stack = v :: l :: below → isMark v = false →
      listAppend { st with stack := l :: below } l [v] = some (st1, l') →
      Step mc hook st .append { st1 with stack := l' :: below }
  | global m n : Step mc hook st (.global m n) (push st (.cls m n))
  | dict {above below es} : splitAtMark st.stack = some (above, below) →
      assignAll (dictKind mc.cfg) [] above.reverse = some es →
      Step mc hook st .dict { (allocObj st { kind := dictKind mc.cfg, kvs := es }).1 with
        stack := (allocObj st { kind := dictKind mc.cfg, kvs := es }).2 :: below }
  | emptyDict : Step mc hook st .emptyDict
      (push (allocObj st { kind := dictKind mc.cfg }).1 (allocObj st { kind := dictKind mc.cfg }).2)
  | appends {above l below st1 l'} : splitAtMark st.stack = some (above, l :: below) →
      listAppend st l above.reverse = some (st1, l') → Step mc hook st .appends { st1 with stack := l' :: below }
  | get {key v} : memoGet st key = some v → Step mc hook st (.get key) (push st v)
  | list {above below} : splitAtMark st.stack = some (above, below) →
      Step mc hook st .list { (mkList mc st above.reverse).1 with stack := (mkList mc st above.reverse).2 :: below }
  | emptyList : Step mc hook st .emptyList (push (mkList mc st []).1 (mkList mc st []).2)
  | put {key v s} : st.stack = v :: s → isMark v = false → Step mc hook st (.put key) (memoPut st key v)
  | setitem {v k id s o es} : st.stack = v :: k :: .href id :: s → isMark k = false → isMark v = false →
      st.heap[id]? = some o → (o.kind == .list) = false → tryAssign o.kind o.kvs k v = some es →
      Step mc hook st .setitem (heapSet { st with stack := .href id :: s } id { o with kvs := es })
  | tuple {above below} : splitAtMark st.stack = some (above, below) →
      Step mc hook st .tuple { st with stack := .tuple above.reverse :: below }
  | tupleN {n} : (∀ v ∈ st.stack.take n, isMark v = false) →
      Step mc hook st (.tupleN n) { st with stack := .tuple (st.stack.take n).reverse :: st.stack.drop n }
  | emptyTuple : Step mc hook st .emptyTuple (push st (.tuple []))
  | setitems {above id below o es} : splitAtMark st.stack = some (above, .href id :: below) →
      st.heap[id]? = some o → (o.kind == .list) = false → assignAll o.kind o.kvs above.reverse = some es →
      Step mc hook st .setitems { heapSet st id { o with kvs := es } with stack := .href id :: below }
  | frame : Step mc hook st .frame st
  | stackGlobal {n m s} : st.stack = .str n :: .str m :: s →
      Step mc hook st .stackGlobal (push { st with stack := s } (.cls m n))
  | memoize {v s} : st.stack = v :: s → isMark v = false →
      Step mc hook st .memoize (memoPut st (memoKey st.memo.length) v)
  | proto {v} : v ≤ 5 → Step mc hook st (.proto v) { st with proto := v }

inductive Outcome (S : DState → Prop) : M DState → Prop
  | ok {st'} : S st' → Outcome S (.ok st')
  | err {e} : NotPanic e → Outcome S (.error e)

theorem NotPanic.stackUnderflow : NotPanic .stackUnderflow := nofun
theorem NotPanic.noMarker : NotPanic .noMarker := nofun
theorem NotPanic.other : NotPanic .other := nofun
theorem NotPanic.opcode (k : UInt8) (pos : Nat) : NotPanic (.opcode k pos) := nofun

theorem Outcome.bind {S : DState → Prop} {x : M α} {f : α → M DState} (hx : NoPanic x)
    (hf : ∀ a, x = .ok a → Outcome S (f a)) : Outcome S (x >>= f) := by
  cases x with
  | error e => exact .err (hx.of_error rfl)
  | ok a => exact hf a rfl

theorem Outcome.of {S : DState → Prop} {x : M DState} (hx : NoPanic x) (h : ∀ st', x = .ok st' → S st') :
    Outcome S x := by
  cases x with
  | error e => exact .err (hx.of_error rfl)
  | ok a => exact .ok (h a rfl)

theorem ok_bind (a : α) (f : α → M β) : (Except.ok a >>= f) = f a := rfl

theorem exec_outcome (mc : MCfg) (hook : Hook) (i : Insn) (pos : Nat) (st : DState) :
    Outcome (Step mc hook st i) (exec mc hook i pos st) := by
  obtain ⟨stk, memo, heap, proto, nbig, calls⟩ := st
  cases i
  case mark | stop | pushFloat | pushBool | pushInt | pushBig | pushNone | pushByteString | pushStr | pushBytes
      | pushBytearray | global | emptyDict | emptyList | emptyTuple | frame =>
    exact .ok (by constructor)
  case popMark | build | inst | obj | unknown => exact .err (.opcode _ _)
  case nextBuffer | readonlyBuffer => exact .err .other
  case pop =>
    cases stk with
    | nil => exact .err .stackUnderflow
    | cons v s => exact .ok (.pop rfl)
  case dup =>
    cases stk with
    | nil => exact .err .stackUnderflow
    | cons v s => exact .ok (.dup rfl)
  case persid s => exact .of (handleRef_np _ _ _) fun _ h => .persid h
  case binpersid =>
    refine Outcome.bind (popUser_np _) fun ⟨pid, st1⟩ ha => ?_
    obtain ⟨s, hs, hm, rfl⟩ := popUser_ok ha
    exact .of (handleRef_np _ _ _) fun _ h => .binpersid hs hm h
  case reduce =>
    match stk with
    | [] | [_] => exact .err .stackUnderflow
    | a :: b :: s =>
      dsimp only [exec, xpop, List.length_cons, ok_bind]
      rw [if_neg (by omega : ¬ s.length + 1 + 1 < 2)]
      split
      · rename_i args m n
        cases hc : handleCall proto m n args with
        | none => exact .ok (.reduce rfl (.inr ⟨hc, rfl⟩))
        | some r =>
          cases r with
          | error e => exact .err ((handleCall_np hc).of_error rfl)
          | ok v => exact .ok (.reduce rfl (.inl hc))
      · exact .err .other
  case append =>
    match stk with
    | [] | [_] => exact .err .stackUnderflow
    | v :: l :: below =>
      dsimp only [exec, xpop, List.length_cons, ok_bind]
      rw [if_neg (by omega : ¬ below.length + 1 + 1 < 2)]
      refine Outcome.bind (userOK_np v) fun _ hu => ?_
      cases hla : listAppend ⟨l :: below, memo, heap, proto, nbig, calls⟩ l [v] with
      | none => exact .err .other
      | some p => exact .ok (.append rfl (userOK_ok hu) hla)
  case dict =>
    dsimp only [exec]
    cases hs : splitAtMark stk with
    | none => exact .err .noMarker
    | some p =>
      obtain ⟨above, below⟩ := p
      dsimp only
      split
      · exact .err .other
      · cases ha : assignAll (dictKind mc.cfg) [] above.reverse with
        | none => exact .err .other
        | some es => exact .ok (.dict hs ha)
  case appends =>
    dsimp only [exec]
    cases hs : splitAtMark stk with
    | none => exact .err .noMarker
    | some p =>
      obtain ⟨above, _ | ⟨l, below⟩⟩ := p
      · exact .err .stackUnderflow
      · dsimp only
        cases hla : listAppend ⟨stk, memo, heap, proto, nbig, calls⟩ l above.reverse with
        | none => exact .err .other
        | some p => exact .ok (.appends hs hla)
  case get key =>
    dsimp only [exec]
    cases hg : memoGet ⟨stk, memo, heap, proto, nbig, calls⟩ key with
    | none => exact .err .other
    | some v => exact .ok (.get hg)
  case list =>
    dsimp only [exec]
    cases hs : splitAtMark stk with
    | none => exact .err .noMarker
    | some p => exact .ok (.list hs)
  case put key =>
    cases stk with
    | nil => exact .err .stackUnderflow
    | cons v s => exact Outcome.bind (userOK_np v) fun _ hu => .ok (.put rfl (userOK_ok hu))
  case setitem =>
    match stk with
    | [] | [_] | [_, _] => exact .err .stackUnderflow
    | v :: k :: c :: s =>
      dsimp only [exec, xpop, List.length_cons, ok_bind]
      rw [if_neg (by omega : ¬ s.length + 1 + 1 + 1 < 3)]
      refine Outcome.bind (userOK_np k) fun _ huk => Outcome.bind (userOK_np v) fun _ huv => ?_
      split
      · rename_i h; cases h
      · rename_i id _ h
        cases h
        cases ho : heap[id]? with
        | none => exact .err .other
        | some o =>
          dsimp only
          split
          · exact .err .other
          · rename_i hk
            cases ha : tryAssign o.kind o.kvs k v with
            | none => exact .err .other
            | some es => exact .ok (.setitem rfl (userOK_ok huk) (userOK_ok huv) ho (Bool.eq_false_iff.mpr hk) ha)
      · exact .err .other
  case tuple =>
    dsimp only [exec]
    cases hs : splitAtMark stk with
    | none => exact .err .noMarker
    | some p => exact .ok (.tuple hs)
  case tupleN n =>
    dsimp only [exec]
    split
    · exact .err .stackUnderflow
    · exact Outcome.bind (userOKAll_np _) fun _ hu =>
        .ok (.tupleN fun v hv => userOKAll_ok hu v (List.mem_reverse.mpr hv))
  case setitems =>
    dsimp only [exec]
    cases hs : splitAtMark stk with
    | none => exact .err .noMarker
    | some p =>
      obtain ⟨above, _ | ⟨l, below⟩⟩ := p
      · exact .err .stackUnderflow
      · dsimp only
        split
        · exact .err .other
        · split
          · rename_i id
            cases ho : heap[id]? with
            | none => exact .err .other
            | some o =>
              dsimp only
              split
              · exact .err .other
              · rename_i hk
                cases ha : assignAll o.kind o.kvs above.reverse with
                | none => exact .err .other
                | some es => exact .ok (.setitems hs ho (Bool.eq_false_iff.mpr hk) ha)
          · exact .err .other
  case stackGlobal =>
    match stk with
    | [] | [_] => exact .err .stackUnderflow
    | a :: b :: s =>
      dsimp only [exec, xpop, List.length_cons, ok_bind]
      rw [if_neg (by omega : ¬ s.length + 1 + 1 < 2)]
      split
      · exact .ok (.stackGlobal rfl)
      · exact .err .other
  case memoize =>
    cases stk with
    | nil => exact .err .stackUnderflow
    | cons v s => exact Outcome.bind (userOK_np v) fun _ hu => .ok (.memoize rfl (userOK_ok hu))
  case proto v =>
    dsimp only [exec]
    split
    · rename_i hv; exact .ok (.proto hv)
    · exact .err nofun

theorem exec_setitem {mc : MCfg} {hook : Hook} {pos : Nat} {st : DState} {v k : GoVal} {id : Nat} {s : List GoVal} {o : HObj}
    (hs : st.stack = v :: k :: .href id :: s) (hk : isMark k = false) (hv : isMark v = false)
    (ho : st.heap[id]? = some o) (hkind : (o.kind == .list) = false) :
    exec mc hook .setitem pos st =
      match tryAssign o.kind o.kvs k v with
      | some es => .ok (heapSet { st with stack := .href id :: s } id { o with kvs := es })
      | none => .error .other := by
  obtain ⟨stk, memo, heap, proto, nbig, calls⟩ := st
  subst hs
  dsimp only at ho
  dsimp only [exec, xpop, List.length_cons, ok_bind]
  rw [if_neg (by omega : ¬ s.length + 1 + 1 + 1 < 3), userOK_of_not_mark hk, userOK_of_not_mark hv]
  dsimp only [ok_bind]
  rw [ho]
  dsimp only
  rw [hkind]
  cases tryAssign o.kind o.kvs k v <;> rfl

theorem exec_reduce {mc : MCfg} {hook : Hook} {pos : Nat} {st : DState} {m n : Bytes} {args s : List GoVal}
    (hs : st.stack = .tuple args :: .cls m n :: s) :
    exec mc hook .reduce pos st =
      match handleCall st.proto m n args with
      | some r => r.map fun v => { st with stack := v :: s }
      | none => .ok { st with stack := .call m n args :: s } := by
  obtain ⟨stk, memo, heap, proto, nbig, calls⟩ := st
  subst hs
  dsimp only [exec, xpop, List.length_cons, ok_bind]
  rw [if_neg (by omega : ¬ s.length + 1 + 1 < 2)]
  cases handleCall proto m n args with
  | none => rfl
  | some r => cases r <;> rfl

theorem exec_stackGlobal {mc : MCfg} {hook : Hook} {pos : Nat} {st : DState} {m n : Bytes} {s : List GoVal}
    (hs : st.stack = .str n :: .str m :: s) :
    exec mc hook .stackGlobal pos st = .ok { st with stack := .cls m n :: s } := by
  obtain ⟨stk, memo, heap, proto, nbig, calls⟩ := st
  subst hs
  dsimp only [exec, xpop, List.length_cons, ok_bind]
  rw [if_neg (by omega : ¬ s.length + 1 + 1 < 2)]
  rfl

theorem exec_tupleN {mc : MCfg} {hook : Hook} {pos : Nat} {st : DState} {n : Nat} {rs s : List GoVal}
    (hs : st.stack = rs.reverse ++ s) (hn : rs.length = n) (hm : ∀ r ∈ rs, isMark r = false) :
    exec mc hook (.tupleN n) pos st = .ok { st with stack := .tuple rs :: s } := by
  obtain ⟨stk, memo, heap, proto, nbig, calls⟩ := st
  subst hs hn
  dsimp only [exec]
  rw [if_neg (by simp), List.take_left' List.length_reverse, List.drop_left' List.length_reverse, List.reverse_reverse,
    userOKAll_of_not_mark rs hm]
  rfl

theorem exec_pushByteString (mc : MCfg) (hook : Hook) (pos : Nat) (st : DState) (b : Bytes) :
    exec mc hook (.pushByteString b) pos st = .ok (push st (if mc.cfg.su then .bytestr b else .str b)) := rfl

theorem exec_step {mc : MCfg} {hook : Hook} {i : Insn} {pos : Nat} {st st' : DState}
    (h : exec mc hook i pos st = .ok st') : Step mc hook st i st' := by
  have := exec_outcome mc hook i pos st
  rw [h] at this
  cases this
  assumption

theorem exec_no_panic (mc : MCfg) (hook : Hook) (i : Insn) (pos : Nat) (st : DState) :
    NoPanic (exec mc hook i pos st) := by
  intro w h
  have := exec_outcome mc hook i pos st
  rw [h] at this
  cases this with
  | err hp => exact hp w rfl

end Ogorek
