import Ogorek.Lemmas.Reader
import Ogorek.Lemmas.Step
import Ogorek.Lemmas.Loop

/-!
  Straight-line execution: a byte string that parses as a sequence of non-STOP instructions,
  and the effect of running them — the bridge between a pickle known instruction by instruction (the
  encoder's output, what CPython's pickler writes) and the decode loop.
-/
namespace Ogorek

/-- `insn` is the number of instructions executed before. -/
def runFrom (mc : MCfg) (hook : Hook) : Nat → List Insn → DState → M DState
  | _, [], st => .ok st
  | insn, i :: is, st =>
    match exec mc hook i (insn + 1) st with
    | .ok st' => runFrom mc hook (insn + 1) is st'
    | .error e => .error e

def Parses : Bytes → List Insn → Prop
  | bs, [] => bs = []
  | bs, i :: is => ∃ b1 b2, bs = b1 ++ b2 ∧ i.isStop = false ∧ (∀ t, parseInsn (b1 ++ t) = .ok (i, t)) ∧ Parses b2 is

theorem Parses.nil : Parses [] [] := rfl

theorem Parses.single {b : Bytes} {i : Insn} (hs : i.isStop = false) (h : ∀ t, parseInsn (b ++ t) = .ok (i, t)) :
    Parses b [i] := ⟨b, [], by simp, hs, h, rfl⟩

theorem Parses.cons_inv {bs : Bytes} {i : Insn} {is : List Insn} (h : Parses bs (i :: is)) :
    ∃ key r b2, bs = key :: r ++ b2 ∧ i.isStop = false ∧ (∀ t, parseArg key (r ++ t) = .ok (i, t)) ∧ Parses b2 is := by
  obtain ⟨b1, b2, rfl, hs, hp, hr⟩ := h
  cases b1 with
  | nil => cases hp []
  | cons key r => exact ⟨key, r, b2, rfl, hs, hp, hr⟩

theorem Parses.append {b1 b2 : Bytes} {is1 is2 : List Insn} (h1 : Parses b1 is1) (h2 : Parses b2 is2) :
    Parses (b1 ++ b2) (is1 ++ is2) := by
  induction is1 generalizing b1 with
  | nil => simp [Parses] at h1; subst h1; simpa using h2
  | cons i is ih =>
    obtain ⟨x, y, rfl, hs, hp, hr⟩ := h1
    exact ⟨x, y ++ b2, by simp, hs, hp, ih hr⟩

theorem runFrom_append (mc : MCfg) (hook : Hook) (is1 is2 : List Insn) (insn : Nat) (st st1 : DState)
    (h : runFrom mc hook insn is1 st = .ok st1) :
    runFrom mc hook insn (is1 ++ is2) st = runFrom mc hook (insn + is1.length) is2 st1 := by
  induction is1 generalizing insn st with
  | nil => simp [runFrom] at h; subst h; simp
  | cons i is ih =>
    simp only [runFrom, List.cons_append] at h ⊢
    cases he : exec mc hook i (insn + 1) st with
    | error e => rw [he] at h; simp at h
    | ok st' =>
      rw [he] at h
      simp only at h ⊢
      rw [ih _ _ h]
      simp [Nat.add_assoc, Nat.add_comm 1]

theorem decodeLoop_run (mc : MCfg) (hook : Hook) :
    ∀ (is : List Insn) (bs : Bytes) (insn : Nat) (st st' : DState) (t : Bytes) (fuel : Nat),
      Parses bs is → runFrom mc hook insn is st = .ok st' →
      decodeLoop mc hook (fuel + is.length) insn st (bs ++ t) = decodeLoop mc hook fuel (insn + is.length) st' t := by
  intro is
  induction is with
  | nil =>
    intro bs insn st st' t fuel hp hr
    simp [Parses] at hp; subst hp
    simp [runFrom] at hr; subst hr
    simp
  | cons i is ih =>
    intro bs insn st st' t fuel hp hr
    obtain ⟨key, r1, b2, rfl, hs, hpa, hrest⟩ := hp.cons_inv
    simp only [runFrom] at hr
    cases he : exec mc hook i (insn + 1) st with
    | error e => rw [he] at hr; simp at hr
    | ok st1 =>
      rw [he] at hr
      simp only at hr
      have hlen : fuel + (i :: is).length = (fuel + is.length) + 1 := by simp; omega
      rw [hlen]
      simp only [List.cons_append, List.append_assoc]
      rw [decodeLoop_step mc hook _ insn st st1 key _ _ i (hpa (b2 ++ t)) hs he, ih b2 (insn + 1) st1 st' t fuel hrest hr]
      have e : insn + 1 + is.length = insn + (is.length + 1) := by omega
      simp only [List.length_cons, e]

theorem parses_length_le : {is : List Insn} → {bs : Bytes} → Parses bs is → is.length ≤ bs.length
  | [], _, _ => by simp
  | i :: is, bs, h => by
    obtain ⟨key, r, b2, rfl, _, _, hr⟩ := h.cons_inv
    have ih := parses_length_le hr
    simp; omega

end Ogorek
