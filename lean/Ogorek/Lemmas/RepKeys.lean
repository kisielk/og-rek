import Ogorek.Lemmas.Rep
import Ogorek.Props.C07

/-!
  Dict / map keys under `Rep`: a key comes back identical except that `*big.Int` objects are new
  allocations; equality (`goEqual`) and hashing (`hashTree`) do not look at the identity of a
  big int, so the decoder's DICT rebuilds exactly the entries the encoder wrote.
-/
namespace Ogorek

mutual
/-- Forget which allocation a `*big.Int` is. -/
def strip : GoVal → GoVal
  | .big _ i => .big 0 i
  | .tuple xs => .tuple (stripL xs)
  | .list xs => .list (stripL xs)
  | .call m n args => .call m n (stripL args)
  | .ref p => .ref (strip p)
  | v => v
def stripL : List GoVal → List GoVal
  | [] => []
  | x :: xs => strip x :: stripL xs
end

theorem stripL_eq_map : ∀ xs : List GoVal, stripL xs = xs.map strip
  | [] => rfl
  | x :: xs => congrArg (strip x :: ·) (stripL_eq_map xs)

/-- `strip` as `equal` sees it: the id of a big int is not looked at. -/
theorem eqView_strip (a : GoVal) : eqView (strip a) = (eqView a).map strip id := by
  cases a
  case tuple xs | list xs => exact congrArg EqView.seq (stripL_eq_map xs)
  case call m n xs => exact congrArg (EqView.call m n) (stripL_eq_map xs)
  all_goals rfl

theorem goEqual_strip : (a b : GoVal) → goEqual (strip a) (strip b) = goEqual a b :=
  (goEqual_map_parts (fun _ _ => rfl) eqView_strip).val

theorem goEqualList_strip : (xs ys : List GoVal) → goEqualList (stripL xs) (stripL ys) = goEqualList xs ys := fun xs ys => by
  rw [stripL_eq_map, stripL_eq_map]
  exact (goEqual_map_parts (fun _ _ => rfl) eqView_strip).lst xs ys

mutual
theorem hashTree_strip : (a : GoVal) → hashTree (strip a) = hashTree a
  | .tuple xs => congrArg (Option.map _) (hashTreeList_strip xs)
  | .call m n args => congrArg (Option.map _) (hashTreeList_strip args)
  | .ref p => congrArg (Option.map _) (hashTree_strip p)
  | .list _ | .big _ _ | .none | .nil | .bool _ | .int _ | .uint _ | .float _ | .complex _ _ | .str _ | .bytestr _ | .bytes _
  | .bytearray _ | .map _ | .dict _ | .cls _ _ | .user _ | .mark | .href _ | .cycle => rfl
theorem hashTreeList_strip : (xs : List GoVal) → hashTreeList (stripL xs) = hashTreeList xs
  | [] => rfl
  | x :: xs => by simp only [stripL, hashTreeList, hashTree_strip x, hashTreeList_strip xs]
end

mutual
/-- Values that can be Dict keys (no list / dict / bytearray inside) and that come back unchanged but
    for the identity of big ints. `su`: the decoder's StrictUnicode (a ByteString key comes back as a
    string otherwise, which changes what it equals). `rk`: whether a `Ref` may stand inside a key, which
    is sound only when the persistent-load hook leaves Refs alone (`rk = true → ∀ p, ρ p = .ref p`). -/
def keyLike (su rk : Bool) : GoVal → Bool
  | .none | .bool _ | .int _ | .float _ | .str _ | .bytes _ | .cls _ _ | .big _ _ => true
  | .bytestr _ => su
  | .tuple xs => keyLikeList su rk xs
  | .call _ _ args => keyLikeList su rk args
  | .ref p => rk && keyLike su rk p
  | _ => false
def keyLikeList (su rk : Bool) : List GoVal → Bool
  | [] => true
  | x :: xs => keyLike su rk x && keyLikeList su rk xs
end

mutual
theorem Rep.strip_eq {mc : MCfg} {ρ : GoVal → GoVal} {rk : Bool} (hρ : rk = true → ∀ p, ρ p = .ref p) {h : List HObj} {r : GoVal} : (k : GoVal) → Rep mc ρ h r k → keyLike mc.cfg.su rk k = true →
    strip r = strip k
  -- `Rep`, `keyLike` and `strip` compute on a constructor: every case is stated at the reduced types
  | .none | .bool _ | .int _ | .float _ | .str _ | .bytes _ | .cls _ _ => fun hr _ => congrArg strip hr
  | .big _ i => fun ⟨_, hr⟩ _ => hr ▸ rfl
  | .bytestr s => fun hr hk => congrArg strip (Eq.trans hr (if_pos hk))
  | .tuple xs => fun ⟨_, hr, hl⟩ hk => (congrArg strip hr).trans (congrArg GoVal.tuple (RepList.strip_eq hρ xs hl hk))
  | .call m n args => fun ⟨_, hr, hl⟩ hk => (congrArg strip hr).trans (congrArg (GoVal.call m n) (RepList.strip_eq hρ args hl hk))
  | .ref p => fun ⟨q, hr, _, hp⟩ hk =>
    have hk := Bool.and_eq_true_iff.mp hk
    (congrArg strip (hr.trans (hρ hk.1 q))).trans (congrArg GoVal.ref (Rep.strip_eq hρ p hp hk.2))
  | .nil | .uint _ | .complex _ _ | .bytearray _ | .list _ | .map _ | .dict _ | .user _ | .mark | .href _ | .cycle =>
    fun _ hk => nomatch hk
theorem RepList.strip_eq {mc : MCfg} {ρ : GoVal → GoVal} {rk : Bool} (hρ : rk = true → ∀ p, ρ p = .ref p) {h : List HObj} : {rs : List GoVal} → (xs : List GoVal) → RepList mc ρ h rs xs →
    keyLikeList mc.cfg.su rk xs = true → stripL rs = stripL xs
  | [], [], _, _ => rfl
  | [], _ :: _, hr, _ => nomatch hr
  | _ :: _, [], hr, _ => nomatch hr
  | r :: rs, x :: xs, hr, hk => by
    have hk := Bool.and_eq_true_iff.mp hk
    show strip r :: stripL rs = strip x :: stripL xs
    rw [Rep.strip_eq hρ x hr.1 hk.1, RepList.strip_eq hρ xs hr.2 hk.2]
end

/-- Keys of builtin maps that come back literally: no `*big.Int` (a pointer: the decoded one is a
    different key by Go's `==`), no Tuple / Call (not comparable). -/
def mapKeyPlain (su rk : Bool) : GoVal → Bool
  | .none | .bool _ | .int _ | .float _ | .str _ | .bytes _ | .cls _ _ => true
  | .bytestr _ => su
  | .ref p => rk && mapKeyPlain su rk p
  | _ => false

def flatE : Entries → List GoVal
  | [] => []
  | (k, v) :: r => k :: v :: flatE r

theorem flatE_length (es : Entries) : (flatE es).length = 2 * es.length := by
  induction es with
  | nil => rfl
  | cons e es ih => obtain ⟨k, v⟩ := e; simp [flatE, ih]; omega

/-- Each key differs (under `eqf`, new key first) from all keys before it and from `old`. -/
def freshOver (eqf : GoVal → GoVal → Bool) : List GoVal → List GoVal → Prop
  | _, [] => True
  | old, k :: ks => (∀ o ∈ old, eqf k o = false) ∧ freshOver eqf (old ++ [k]) ks

theorem freshOver_of_append {eqf : GoVal → GoVal → Bool} : (a b old : List GoVal) → freshOver eqf old (a ++ b) →
    freshOver eqf (old ++ a) b
  | [], b, old, h => by simpa using h
  | k :: a, b, old, h => by
    have := freshOver_of_append a b (old ++ [k]) h.2
    rwa [List.append_assoc] at this

theorem assignAll_append {kind : HKind} {ok : GoVal → Bool} {eqf : GoVal → GoVal → Bool}
    (ht : ∀ es k v, ok k = true → tryAssign kind es k v = some ((es.filter fun e => !eqf k e.1) ++ [(k, v)])) :
    (reps es0 : Entries) → (∀ e ∈ reps, ok e.1 = true) → freshOver eqf (es0.map (·.1)) (reps.map (·.1)) →
    assignAll kind es0 (flatE reps) = some (es0 ++ reps)
  | [], es0, _, _ => by simp [flatE, assignAll]
  | (k, v) :: reps, es0, hh, hf => by
    have hset : (es0.filter fun e => !eqf k e.1) = es0 :=
      List.filter_eq_self.mpr fun e he => by rw [hf.1 e.1 (List.mem_map_of_mem he)]; rfl
    have ih := assignAll_append ht reps (es0 ++ [(k, v)]) (fun e he => hh e (List.mem_cons_of_mem _ he))
      (by simpa using hf.2)
    simp only [flatE, assignAll, ht es0 k v (hh (k, v) List.mem_cons_self), hset, ih, List.append_assoc, List.singleton_append]

theorem assignAll_dict_append : (reps es0 : Entries) → (∀ e ∈ reps, hashable e.1 = true) →
    freshOver goEqual (es0.map (·.1)) (reps.map (·.1)) → assignAll .dict es0 (flatE reps) = some (es0 ++ reps) :=
  assignAll_append fun _ _ _ hk => if_pos hk

theorem assignAll_map_append : (reps es0 : Entries) → (∀ e ∈ reps, goMapHashable e.1 = true) →
    freshOver goKeyEq (es0.map (·.1)) (reps.map (·.1)) → assignAll .map es0 (flatE reps) = some (es0 ++ reps) :=
  assignAll_append fun _ _ _ hk => if_pos hk

theorem repPairs_of_flat {mc : MCfg} {ρ : GoVal → GoVal} {h : List HObj} : (kvs : Entries) → (rs : List GoVal) → RepList mc ρ h rs (flatE kvs) →
    ∃ es, rs = flatE es ∧ RepPairs mc ρ h es kvs
  | [], [], _ => ⟨[], rfl, trivial⟩
  | [], _ :: _, hr => nomatch hr
  | (k, v) :: kvs, [], hr => nomatch hr
  | (k, v) :: kvs, [_], hr => nomatch hr.2
  | (k, v) :: kvs, r :: r' :: rs, hr => by
    obtain ⟨es, rfl, hp⟩ := repPairs_of_flat kvs rs hr.2.2
    exact ⟨(r, r') :: es, rfl, hr.1, hr.2.1, hp⟩

theorem RepPairs.keys {mc : MCfg} {ρ : GoVal → GoVal} {h : List HObj} : {es kvs : Entries} → RepPairs mc ρ h es kvs →
    RepList mc ρ h (es.map (·.1)) (kvs.map (·.1))
  | [], [], _ => trivial
  | [], _ :: _, hr => nomatch hr
  | _ :: _, [], hr => nomatch hr
  | _ :: es, _ :: kvs, hr => ⟨hr.1, RepPairs.keys hr.2.2⟩

theorem RepList.mem {mc : MCfg} {ρ : GoVal → GoVal} {h : List HObj} {su rk : Bool} : {rs xs : List GoVal} → RepList mc ρ h rs xs → keyLikeList su rk xs = true →
    ∀ r ∈ rs, ∃ x ∈ xs, Rep mc ρ h r x ∧ keyLike su rk x = true
  | [], [], _, _ => fun _ hr => nomatch hr
  | [], _ :: _, hr, _ => nomatch hr
  | _ :: _, [], hr, _ => nomatch hr
  | r :: rs, x :: xs, hr, hk => by
    have hk := Bool.and_eq_true_iff.mp hk
    intro y hy
    rcases List.mem_cons.mp hy with rfl | hy
    · exact ⟨x, by simp, hr.1, hk.1⟩
    · obtain ⟨z, hz, h1, h2⟩ := RepList.mem hr.2 hk.2 y hy
      exact ⟨z, by simp [hz], h1, h2⟩

theorem keyLikeList_snoc {su rk : Bool} : (xs : List GoVal) → (x : GoVal) → keyLikeList su rk xs = true → keyLike su rk x = true →
    keyLikeList su rk (xs ++ [x]) = true
  | [], x, _, hx => Bool.and_eq_true_iff.mpr ⟨hx, rfl⟩
  | y :: ys, x, hxs, hx =>
    have hxs := Bool.and_eq_true_iff.mp hxs
    Bool.and_eq_true_iff.mpr ⟨hxs.1, keyLikeList_snoc ys x hxs.2 hx⟩

section
variable {mc : MCfg} {ρ : GoVal → GoVal} {rk : Bool} (hρ : rk = true → ∀ p, ρ p = .ref p)
include hρ

theorem Rep.goEqual_eq {h : List HObj} {r1 r2 k1 k2 : GoVal} (h1 : Rep mc ρ h r1 k1) (h2 : Rep mc ρ h r2 k2)
    (hk1 : keyLike mc.cfg.su rk k1 = true) (hk2 : keyLike mc.cfg.su rk k2 = true) : goEqual r1 r2 = goEqual k1 k2 := by
  rw [← goEqual_strip r1 r2, Rep.strip_eq hρ k1 h1 hk1, Rep.strip_eq hρ k2 h2 hk2, goEqual_strip]

theorem Rep.hashable_eq {h : List HObj} {r k : GoVal} (h1 : Rep mc ρ h r k)
    (hk : keyLike mc.cfg.su rk k = true) : hashable r = hashable k := by
  unfold hashable
  rw [← hashTree_strip r, Rep.strip_eq hρ k h1 hk, hashTree_strip]

theorem Rep.eq_of_plain {h : List HObj} {r : GoVal} : (k : GoVal) → Rep mc ρ h r k → mapKeyPlain mc.cfg.su rk k = true → r = k
  | .none | .bool _ | .int _ | .float _ | .str _ | .bytes _ | .cls _ _ => fun hr _ => hr
  | .bytestr s => fun hr hk => Eq.trans hr (if_pos hk)
  | .ref p => fun ⟨q, hr, _, hp⟩ hk =>
    have hk := Bool.and_eq_true_iff.mp hk
    (hr.trans (hρ hk.1 q)).trans (congrArg GoVal.ref (Rep.eq_of_plain p hp hk.2))
  | .nil | .uint _ | .complex _ _ | .bytearray _ | .list _ | .map _ | .big _ _ | .dict _ | .user _ | .mark | .href _ | .cycle
  | .tuple _ | .call _ _ _ => fun _ hk => nomatch hk

theorem freshOver_rep {h : List HObj} : (ks rks : List GoVal) → (old rold : List GoVal) →
    RepList mc ρ h rks ks → keyLikeList mc.cfg.su rk ks = true → RepList mc ρ h rold old → keyLikeList mc.cfg.su rk old = true →
    freshOver goEqual old ks → freshOver goEqual rold rks
  | [], [], _, _, _, _, _, _, _ => trivial
  | [], _ :: _, _, _, hr, _, _, _, _ => nomatch hr
  | _ :: _, [], _, _, hr, _, _, _, _ => nomatch hr
  | k :: ks, r :: rks, old, rold, hr, hk, hro, hko, hf => by
    have hk := Bool.and_eq_true_iff.mp hk
    refine ⟨?_, freshOver_rep ks rks (old ++ [k]) (rold ++ [r]) hr.2 hk.2 (RepList.snoc hro hr.1)
      (keyLikeList_snoc old k hko hk.1) hf.2⟩
    intro o ho
    obtain ⟨x, hx, h1, h2⟩ := RepList.mem hro hko o ho
    rw [Rep.goEqual_eq hρ hr.1 h1 hk.1 h2]
    exact hf.1 x hx

end

end Ogorek
