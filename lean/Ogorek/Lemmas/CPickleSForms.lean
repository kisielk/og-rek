import Ogorek.Lemmas.CPickleSMemo

/-!
  Decoding what CPython's pickler writes (C02), with the memo read: REDUCE of a call the decoder interprets, strings that
  may be fetched again, and the three globals.
-/
namespace Ogorek

section
variable {mc : MCfg} {hook : Hook} {c : ECfg} {σ : Type} {I : σ → DState → Prop}

theorem pushesG_reduce (hI : MemoOnly I) {g ab : Bytes} {m n : Bytes} {xs : List PyObj} {res : PyObj} {s s1 s2 : σ}
    (hg : PushesV mc hook c I g (.cls m n) s s1) (ha : PushesG mc hook c I ab (.tuple xs) s1 s2)
    (hcall : ∀ (st : DState) rs h nn, ProtoOK c st → RepGList mc.cfg nn h rs xs →
      ∃ rv, handleCall st.proto m n rs = some (.ok rv) ∧ ∀ n' h', RepG mc.cfg n' h' rv res) :
    PushesG mc hook c I (g ++ ab ++ [82]) res s s2 := by
  refine RunsP.snoc (RunsP.seq hg ha (fun _ _ _ _ q => q.1)) (parses_op 82 .reduce rfl parseArg_82) ?_
  intro pos st st2 hpo _ _ ⟨st1, _, ⟨_, hs1, hh1⟩, hj2, r, hs2, hr, hk⟩
  obtain ⟨rs, rfl, hrl⟩ := hr
  have hst : st2.stack = .tuple rs :: .cls m n :: st.stack := by rw [hs2, hs1]
  obtain ⟨rv, hc, hrv⟩ := hcall st2 rs _ _ hpo hrl
  have hexec : exec mc hook .reduce pos st2 = .ok { st2 with stack := rv :: st.stack } := by
    rw [exec_reduce hst, hc]
    rfl
  refine ⟨_, hexec, rfl, hI s2 st2 _ rfl hj2, rv, rfl, hrv _ _, ?_⟩
  unfold KeepsH at hk ⊢
  rw [hh1] at hk
  exact hk

end

section
variable {mc : MCfg} {hook : Hook} {mz : Option PKey → Bool}

theorem pushesV_lookup (p : Nat) (s : PSt) (key : Option PKey) (idx : Nat) (r : GoVal) (hkey : ∀ k, key = some k → valOf p k = r)
    (hfind : key.bind s.find = some idx) : PushesV mc hook (ecfg p) (MemoInv p) (cpGet p idx) r s s := by
  cases key with
  | none => simp at hfind
  | some k =>
    rw [← hkey k rfl]
    exact runs_get p s k idx hfind

theorem saveStrS_okV (p : Nat) (s s' : PSt) (key putKey : Option PKey) (txt b : Bytes)
    (hkey : ∀ k, key = some k → valOf p k = .str txt) (hpk : ∀ k, putKey = some k → valOf p k = .str txt)
    (h : saveStrS mz p s key putKey txt = some (b, s')) :
    PushesV mc hook (ecfg p) (MemoInv p) b (.str txt) s s' := by
  rcases saveStrS_some h with ⟨idx, hfind, rfl, rfl⟩ | ⟨b0, pb, hcs, hput, rfl⟩
  · exact pushesV_lookup p s key idx _ hkey hfind
  · exact (pushesV_str (MemoInv.memoOnly p) s p txt b0 hcs).put (putOK_S p s s' putKey pb hput) rfl (fun k hk => (hpk k hk).symm)

theorem saveStrS_ok (p : Nat) (s s' : PSt) (key putKey : Option PKey) (txt b : Bytes)
    (hkey : ∀ k, key = some k → valOf p k = .str txt) (hpk : ∀ k, putKey = some k → valOf p k = .str txt)
    (h : saveStrS mz p s key putKey txt = some (b, s')) :
    PushesG mc hook (ecfg p) (MemoInv p) b (.str txt) s s' :=
  (saveStrS_okV p s s' key putKey txt b hkey hpk h).toG (fun _ _ => rfl)

theorem saveGlobalS_ok (p : Nat) (s s' : PSt) (key : PKey) (m n b : Bytes) (hkey : valOf p key = .cls m n)
    (h : saveGlobalS mz p s key m n = some (b, s')) :
    PushesV mc hook (ecfg p) (MemoInv p) b (.cls m n) s s' := by
  obtain ⟨hm, hn⟩ : (10 : UInt8) ∉ m ∧ (10 : UInt8) ∉ n := by
    obtain ⟨hmod, hb, hba, hc, he⟩ := nameOK_globals p
    -- only the three global keys stand for a class: `_codecs.encode`, `bytes`, `bytearray`
    cases key <;> cases hkey
    · exact ⟨hc.1, he.1⟩
    · exact ⟨hmod.1, hb.1⟩
    · exact ⟨hmod.1, hba.1⟩
  have hput : ∀ {s2 : PSt} {pb : Bytes}, putS mz p s2 (some key) = some (pb, s') →
      PutOK mc hook (ecfg p) (MemoInv p) pb (fun r => ∀ k, some key = some k → r = valOf p k) s2 s' :=
    fun h => putOK_S p _ _ (some key) _ h
  have hv : ∀ k, some key = some k → GoVal.cls m n = valOf p k := fun k hk => Option.some.inj hk ▸ hkey.symm
  rcases saveGlobalS_some h with ⟨idx, hfind, rfl, rfl⟩ | ⟨b1, s1, b2, s2, pb, h1, h2, hp, rfl⟩ | ⟨pb, hp, rfl⟩
  · rw [← hkey]
    exact runs_get p s key idx hfind
  · have hs1 := saveStrS_okV (mc := mc) (hook := hook) p s s1 none none m b1 nofun nofun h1
    have hs2 := saveStrS_okV (mc := mc) (hook := hook) p s1 s2 none none n b2 nofun nofun h2
    have hsg : PushesV mc hook (ecfg p) (MemoInv p) (b1 ++ b2 ++ [0x93]) (.cls m n) s s2 := by
      refine RunsP.snoc (RunsP.seq hs1 hs2 (fun _ _ _ _ q => q.1)) (parses_op 0x93 .stackGlobal rfl parseArg_147) ?_
      intro pos st st2 _ _ _ ⟨st1, _, ⟨_, hst1, hh1⟩, hj2, hst2, hh2⟩
      have hst : st2.stack = .str n :: .str m :: st.stack := by rw [hst2, hst1]
      exact ⟨_, exec_stackGlobal hst, rfl, MemoInv.memoOnly p s2 st2 _ rfl hj2, rfl, by rw [← hh1, ← hh2]⟩
    exact hsg.put (hput hp) rfl hv
  · exact (PushesV.one (MemoInv.memoOnly p) s (parses_global m n hm hn) (fun _ _ => rfl)).put (hput hp) rfl hv

end

end Ogorek
