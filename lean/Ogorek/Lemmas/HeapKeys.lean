import Ogorek.Lemmas.Step
import Ogorek.Lemmas.Loop

/-!
  The containers the decoder builds hold pairwise different, acceptable keys — in every reachable
  state (an invariant over all executions): what makes a decoded Dict / map re-encodable entry by entry.
-/
namespace Ogorek

def EntriesOK (kind : HKind) (es : Entries) : Prop :=
  match kind with
  | .dict => (∀ e ∈ es, hashable e.1 = true) ∧ es.Pairwise (fun a b => goEqual b.1 a.1 = false)
  | .map => (∀ e ∈ es, goMapHashable e.1 = true) ∧ es.Pairwise (fun a b => goKeyEq b.1 a.1 = false)
  | .list => True

theorem EntriesOK.nil (kind : HKind) : EntriesOK kind [] := by
  cases kind <;> simp [EntriesOK]

/-- The shape of `dictSetSpec` (with `hashable`, `goEqual`) and of `mapSet` (with `goMapHashable`, `goKeyEq`). -/
theorem keys_filter_snoc {p : GoVal → Bool} {eq : GoVal → GoVal → Bool} {es : Entries} {k : GoVal} (v : GoVal)
    (h : (∀ e ∈ es, p e.1 = true) ∧ es.Pairwise (fun a b => eq b.1 a.1 = false)) (hk : p k = true) :
    (∀ e ∈ (es.filter fun e => !eq k e.1) ++ [(k, v)], p e.1 = true) ∧
      ((es.filter fun e => !eq k e.1) ++ [(k, v)]).Pairwise (fun a b => eq b.1 a.1 = false) := by
  refine ⟨fun e he => ?_, ?_⟩
  · rcases List.mem_append.mp he with he | he
    · exact h.1 e (List.mem_filter.mp he).1
    · rw [List.mem_singleton.mp he]; exact hk
  · rw [List.pairwise_append]
    refine ⟨h.2.filter _, List.pairwise_singleton _ _, fun a ha b hb => ?_⟩
    rw [List.mem_singleton.mp hb]
    simpa using (List.mem_filter.mp ha).2

theorem EntriesOK.tryAssign {kind : HKind} {es es' : Entries} {k v : GoVal} (h : EntriesOK kind es)
    (ha : tryAssign kind es k v = some es') : EntriesOK kind es' := by
  cases kind
  all_goals
    simp only [Ogorek.tryAssign] at ha
    split at ha <;> cases ha
  · exact keys_filter_snoc v h ‹_›
  · exact keys_filter_snoc v h ‹_›
  · trivial

theorem EntriesOK.assignAll {kind : HKind} : ∀ (items : List GoVal) {es es' : Entries}, EntriesOK kind es →
    assignAll kind es items = some es' → EntriesOK kind es'
  | [], es, es', h, ha => by simp [Ogorek.assignAll] at ha; subst ha; exact h
  | [_], es, es', h, ha => by simp [Ogorek.assignAll] at ha; subst ha; exact h
  | k :: v :: rest, es, es', h, ha => by
    simp only [Ogorek.assignAll] at ha
    cases ht : Ogorek.tryAssign kind es k v with
    | none => rw [ht] at ha; simp at ha
    | some es1 =>
      rw [ht] at ha
      exact EntriesOK.assignAll rest (h.tryAssign ht) ha

/-- Only list objects have list items, so that a dict or map object is the literal `{ kind, kvs }` that `Rep` asks for
    (`rep_resolve`). -/
def ObjOK (o : HObj) : Prop := EntriesOK o.kind o.kvs ∧ (o.kind ≠ .list → o.xs = [])

def HeapKeys (st : DState) : Prop := ∀ o ∈ st.heap, ObjOK o

theorem HeapKeys.of_heap_eq {st st' : DState} (h : HeapKeys st) (e : st'.heap = st.heap) : HeapKeys st' := by
  unfold HeapKeys at *; rw [e]; exact h

theorem HeapKeys.alloc {st : DState} (h : HeapKeys st) (o : HObj) (ho : ObjOK o) :
    HeapKeys (allocObj st o).1 := by
  intro x hx
  simp only [allocObj, List.mem_append, List.mem_singleton] at hx
  rcases hx with hx | hx
  · exact h x hx
  · subst hx; exact ho

theorem HeapKeys.heapSet {st : DState} (h : HeapKeys st) (id : Nat) (o : HObj) (ho : ObjOK o) :
    HeapKeys (Ogorek.heapSet st id o) := by
  intro x hx
  simp only [Ogorek.heapSet] at hx
  rcases List.mem_or_eq_of_mem_set hx with hx | hx
  · exact h x hx
  · subst hx; exact ho

theorem handleRef_heap {hook : Hook} {st st' : DState} {r : GoVal} (h : handleRef hook st r = .ok st') : st'.heap = st.heap := by
  unfold handleRef at h
  split at h
  · cases h; rfl
  · dsimp only at h
    split at h <;> cases h <;> rfl

theorem listAppend_heapKeys {st st' : DState} {l l' : GoVal} {items : List GoVal}
    (h : listAppend st l items = some (st', l')) (hk : HeapKeys st) : HeapKeys st' := by
  unfold listAppend at h
  split at h
  · simp at h; obtain ⟨rfl, _⟩ := h; exact hk
  · split at h
    · rename_i o ho
      split at h
      · rename_i hlist
        simp at h; obtain ⟨rfl, _⟩ := h
        have hl : o.kind = .list := by simpa using hlist
        exact hk.heapSet _ _ ⟨(hk o (List.mem_of_getElem? ho)).1, fun hne => absurd hl hne⟩
      · simp at h
    · simp at h
  · simp at h

theorem HeapKeys.mkList {st : DState} (h : HeapKeys st) (mc : MCfg) (xs : List GoVal) : HeapKeys (mkList mc st xs).1 := by
  unfold Ogorek.mkList
  split
  · exact h.alloc _ ⟨trivial, fun h => absurd rfl h⟩
  · exact h

theorem exec_heapKeys (mc : MCfg) (hook : Hook) (i : Insn) (pos : Nat) (st st' : DState) (hk : HeapKeys st)
    (he : exec mc hook i pos st = .ok st') : HeapKeys st' := by
  cases exec_step he with
  | persid h | binpersid _ _ h => exact hk.of_heap_eq (handleRef_heap h :)
  | append _ _ hla | appends _ hla => exact (listAppend_heapKeys hla hk :)
  | dict _ ha => exact hk.alloc _ ⟨(EntriesOK.nil _).assignAll _ ha, fun _ => rfl⟩
  | emptyDict => exact hk.alloc _ ⟨EntriesOK.nil _, fun _ => rfl⟩
  | list | emptyList => exact (hk.mkList mc _ :)
  | setitem _ _ _ ho _ ha =>
    exact HeapKeys.heapSet hk _ _ ⟨(hk _ (List.mem_of_getElem? ho)).1.tryAssign ha, (hk _ (List.mem_of_getElem? ho)).2⟩
  | setitems _ ho _ ha =>
    exact HeapKeys.heapSet hk _ _ ⟨(hk _ (List.mem_of_getElem? ho)).1.assignAll _ ha, (hk _ (List.mem_of_getElem? ho)).2⟩
  | _ => exact hk

theorem decodeLoop_heapKeys (mc : MCfg) (hook : Hook) (fuel insn : Nat) (st : DState) (inp : Bytes) :
    HeapKeys st → HeapKeys (decodeLoop mc hook fuel insn st inp).2.1 := by
  refine decodeLoop_induct (P := fun _ _ st _ res => HeapKeys st → HeapKeys res.2.1) ?_ ?_ ?_ ?_ ?_ ?_ ?_ fuel insn st inp
  · exact fun hk => hk
  · exact fun hk => hk
  · exact fun _ hk => hk
  · intro _ _ _ _ _ _ _ _ _ hu hk
    obtain ⟨s, _, _, rfl⟩ := popUser_ok hu
    exact hk
  · exact fun _ _ hk => hk
  · exact fun _ _ _ hk => hk
  · exact fun _ _ he ih hk => ih (exec_heapKeys mc hook _ _ _ _ hk he)

theorem decode_heapKeys (mc : MCfg) (hook : Hook) (st : DState) (inp : Bytes) (hk : HeapKeys st) :
    HeapKeys (decode mc hook st inp).2.1 :=
  decodeLoop_heapKeys mc hook _ _ _ _ hk

theorem HeapKeys.init : HeapKeys {} := by intro o ho; simp at ho

end Ogorek
