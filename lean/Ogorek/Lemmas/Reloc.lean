import Ogorek.Decoder
import Ogorek.Props.C07

/-!
  Relocation: what a pickle decodes to does not depend on where in a stream it stands (C11).

  A pickle decoded after others meets a Decoder whose heap already holds containers, whose `*big.Int` id supply has
  advanced and whose memo has entries.  `shiftV dh db` renames a value accordingly (container references move up by `dh`,
  big-int ids by `db`); everything the decoder computes with values is invariant under that renaming.

  `Reloc dh db H0 A B` says that run `B` is run `A` moved; it determines `B` from `A` up to further memo entries and the
  hook log, and `relocSt` is that function: the primitives of `exec` commute with it as equations.
-/
namespace Ogorek

mutual
def shiftV (dh db : Nat) : GoVal → GoVal
  | .href id => .href (id + dh)
  | .big id i => .big (id + db) i
  | .list xs => .list (shiftL dh db xs)
  | .tuple xs => .tuple (shiftL dh db xs)
  | .call m n args => .call m n (shiftL dh db args)
  | .ref p => .ref (shiftV dh db p)
  | .map kvs => .map (shiftP dh db kvs)
  | .dict kvs => .dict (shiftP dh db kvs)
  | .mark => .mark
  | .none => .none
  | .bool b => .bool b
  | .int i => .int i
  | .uint u => .uint u
  | .float f => .float f
  | .complex re im => .complex re im
  | .str s => .str s
  | .bytestr s => .bytestr s
  | .bytes s => .bytes s
  | .bytearray s => .bytearray s
  | .cls m n => .cls m n
  | .user n => .user n
  | .cycle => .cycle
  | .nil => .nil
def shiftL (dh db : Nat) : List GoVal → List GoVal
  | [] => []
  | x :: xs => shiftV dh db x :: shiftL dh db xs
def shiftP (dh db : Nat) : List (GoVal × GoVal) → List (GoVal × GoVal)
  | [] => []
  | (k, v) :: r => (shiftV dh db k, shiftV dh db v) :: shiftP dh db r
end

def shiftO (dh db : Nat) (o : HObj) : HObj := { kind := o.kind, kvs := shiftP dh db o.kvs, xs := shiftL dh db o.xs }

theorem beq_add_right (a b d : Nat) : (a + d == b + d) = (a == b) := by
  cases h : a == b <;> simp at h ⊢ <;> omega

section
variable (dh db : Nat)

theorem shiftL_eq_map (xs : List GoVal) : shiftL dh db xs = xs.map (shiftV dh db) := by
  induction xs with
  | nil => rfl
  | cons x xs ih => simp [shiftL, ih]

theorem isMark_shift (v : GoVal) : isMark (shiftV dh db v) = isMark v := by
  cases v <;> rfl

theorem strKind_shift (v : GoVal) : strKind? (shiftV dh db v) = strKind? v := by
  cases v <;> rfl

theorem numOf_shift (v : GoVal) : numOf? (shiftV dh db v) = numOf? v := by
  cases v <;> rfl

mutual
theorem hashTree_shift (v : GoVal) : hashTree (shiftV dh db v) = hashTree v := by
  cases v
  case tuple xs => simp only [shiftV, hashTree, hashTreeList_shift xs]
  case call m n xs => simp only [shiftV, hashTree, hashTreeList_shift xs]
  case ref p => simp only [shiftV, hashTree, hashTree_shift p]
  all_goals rfl
theorem hashTreeList_shift : ∀ xs : List GoVal, hashTreeList (shiftL dh db xs) = hashTreeList xs
  | [] => rfl
  | x :: xs => by simp only [shiftL, hashTreeList, hashTree_shift x, hashTreeList_shift xs]
end

theorem hashable_shift (v : GoVal) : hashable (shiftV dh db v) = hashable v := by
  simp [hashable, hashTree_shift]

/-- What `shiftV` does to a heap reference, the one atom it touches. -/
def shiftA : Atom → Atom
  | .href id => .href (id + dh)
  | x => x

theorem shiftA_eq (x y : Atom) : (shiftA dh x).eq (shiftA dh y) = x.eq y := by
  cases x <;> cases y <;> first | rfl | exact beq_add_right _ _ dh

/-- `shiftV` as `equal` sees it: the parts move, and the id of a big int is not looked at. -/
theorem eqView_shift (a : GoVal) : eqView (shiftV dh db a) = (eqView a).map (shiftV dh db) (shiftA dh) := by
  cases a
  case tuple xs | list xs => exact congrArg EqView.seq (shiftL_eq_map dh db xs)
  case call m n xs => exact congrArg (EqView.call m n) (shiftL_eq_map dh db xs)
  all_goals rfl

theorem goEqual_shift (a b : GoVal) : goEqual (shiftV dh db a) (shiftV dh db b) = goEqual a b :=
  (goEqual_map_parts (shiftA_eq dh) (eqView_shift dh db)).val a b

theorem goEqualList_shift : ∀ xs ys : List GoVal, goEqualList (shiftL dh db xs) (shiftL dh db ys) = goEqualList xs ys := by
  simp only [shiftL_eq_map]
  exact (goEqual_map_parts (shiftA_eq dh) (eqView_shift dh db)).lst

theorem goMapHashable_shift (v : GoVal) : goMapHashable (shiftV dh db v) = goMapHashable v := by
  cases v
  case ref p => exact goMapHashable_shift p
  all_goals rfl

theorem goKeyEq_shift (a b : GoVal) : goKeyEq (shiftV dh db a) (shiftV dh db b) = goKeyEq a b := by
  cases a
  -- a value of one of these forms is a key equal to nothing, whatever `b` is
  case list | tuple | call | map | dict | href | bytearray | cycle | nil => eq_refl
  all_goals cases b
  case ref.ref p q => exact goKeyEq_shift p q
  case big.big => exact beq_add_right _ _ db
  all_goals eq_refl

theorem shiftP_filter_snoc (eq : GoVal → GoVal → Bool) (heq : ∀ a b, eq (shiftV dh db a) (shiftV dh db b) = eq a b)
    (es : Entries) (k v : GoVal) :
    ((shiftP dh db es).filter fun e => !eq (shiftV dh db k) e.1) ++ [(shiftV dh db k, shiftV dh db v)] =
      shiftP dh db ((es.filter fun e => !eq k e.1) ++ [(k, v)]) := by
  induction es with
  | nil => rfl
  | cons e es ih =>
    simp only [shiftP, List.filter_cons, heq] at ih ⊢
    cases eq k e.1
    · exact congrArg _ ih
    · exact ih

theorem dictSetSpec_shift (es : Entries) (k v : GoVal) :
    dictSetSpec (shiftP dh db es) (shiftV dh db k) (shiftV dh db v) = shiftP dh db (dictSetSpec es k v) :=
  shiftP_filter_snoc dh db goEqual (goEqual_shift dh db) es k v

theorem mapSet_shift (es : Entries) (k v : GoVal) :
    mapSet (shiftP dh db es) (shiftV dh db k) (shiftV dh db v) = shiftP dh db (mapSet es k v) :=
  shiftP_filter_snoc dh db goKeyEq (goKeyEq_shift dh db) es k v

theorem tryAssign_shift (kind : HKind) (es : Entries) (k v : GoVal) :
    tryAssign kind (shiftP dh db es) (shiftV dh db k) (shiftV dh db v) = (tryAssign kind es k v).map (shiftP dh db) := by
  cases kind with
  | dict =>
    simp only [tryAssign, hashable_shift, dictSetSpec_shift]
    split <;> rfl
  | map | list =>
    simp only [tryAssign, goMapHashable_shift, mapSet_shift]
    split <;> rfl

theorem assignAll_shift (kind : HKind) : ∀ (items : List GoVal) (es : Entries),
    assignAll kind (shiftP dh db es) (shiftL dh db items) = (assignAll kind es items).map (shiftP dh db)
  | [], es => by simp [shiftL, assignAll]
  | [_], es => by simp [shiftL, assignAll]
  | k :: v :: rest, es => by
    simp only [shiftL, assignAll, tryAssign_shift]
    cases h : tryAssign kind es k v with
    | none => simp
    | some es' => simp only [Option.map_some]; exact assignAll_shift kind rest es'

theorem splitAtMark_shift : ∀ s : List GoVal,
    splitAtMark (shiftL dh db s) = (splitAtMark s).map (fun p => (shiftL dh db p.1, shiftL dh db p.2))
  | [] => rfl
  | v :: s => by
    simp only [shiftL, splitAtMark, isMark_shift]
    split
    · rfl
    · rw [splitAtMark_shift s]
      cases splitAtMark s <;> simp [shiftL]

theorem userOK_shift (v : GoVal) : userOK (shiftV dh db v) = userOK v := by
  cases v <;> rfl

theorem userOKAll_shift : ∀ vs : List GoVal, userOKAll (shiftL dh db vs) = userOKAll vs
  | [] => rfl
  | v :: vs => by simp only [shiftL, userOKAll, userOK_shift, userOKAll_shift vs]

theorem shiftL_reverse (xs : List GoVal) : shiftL dh db xs.reverse = (shiftL dh db xs).reverse := by
  simp [shiftL_eq_map]

theorem shiftL_append (xs ys : List GoVal) : shiftL dh db (xs ++ ys) = shiftL dh db xs ++ shiftL dh db ys := by
  simp [shiftL_eq_map]

theorem shiftL_length (xs : List GoVal) : (shiftL dh db xs).length = xs.length := by
  simp [shiftL_eq_map]

theorem shiftL_take (n : Nat) (xs : List GoVal) : shiftL dh db (xs.take n) = (shiftL dh db xs).take n := by
  simp [shiftL_eq_map, List.map_take]

theorem shiftL_drop (n : Nat) (xs : List GoVal) : shiftL dh db (xs.drop n) = (shiftL dh db xs).drop n := by
  simp [shiftL_eq_map, List.map_drop]

theorem stringEQ_shift (x : GoVal) (lit : String) : stringEQ (shiftV dh db x) lit = stringEQ x lit := by
  cases x <;> rfl

theorem decodeLatin1Bytes_shift (x : GoVal) : decodeLatin1Bytes (shiftV dh db x) = decodeLatin1Bytes x := by
  cases x <;> rfl

theorem getD_shiftL (args : List GoVal) (k : Nat) : (shiftL dh db args).getD k .none = shiftV dh db (args.getD k .none) := by
  rw [shiftL_eq_map, List.getD_eq_getElem?_getD, List.getD_eq_getElem?_getD, List.getElem?_map]
  cases args[k]? <;> rfl

theorem handleCall_shift (proto : Nat) (m n : Bytes) (args : List GoVal) :
    handleCall proto m n (shiftL dh db args) = (handleCall proto m n args).map (Except.map (shiftV dh db)) := by
  unfold handleCall
  simp only [shiftL_length, getD_shiftL, stringEQ_shift, decodeLatin1Bytes_shift, apply_ite (Option.map _)]
  generalize args.getD 0 .none = x
  generalize decodeLatin1Bytes x = y
  cases y <;> cases x <;> rfl

end

/-- Run `B` is run `A` moved: `A` started from the empty decoder, `B` after other pickles (heap `H0`, some memo, `db`
    big-int ids handed out). -/
structure Reloc (dh db : Nat) (H0 : List HObj) (A B : DState) : Prop where
  hdh : dh = H0.length
  stack : B.stack = shiftL dh db A.stack
  memo : ∃ M', B.memo = (A.memo.map fun e => (e.1, shiftV dh db e.2)) ++ M'
  heap : B.heap = H0 ++ A.heap.map (shiftO dh db)
  proto : B.proto = A.proto
  nbig : B.nbig = A.nbig + db

/-- The moved run as a function of the original one: `Reloc` fixes `B` up to the memo entries `M'` the earlier pickles
    left behind and the ghost field `calls`. -/
def relocSt (db : Nat) (H0 : List HObj) (M' : List (Bytes × GoVal)) (c : List GoVal) (A : DState) : DState where
  stack := shiftL H0.length db A.stack
  memo := (A.memo.map fun e => (e.1, shiftV H0.length db e.2)) ++ M'
  heap := H0 ++ A.heap.map (shiftO H0.length db)
  proto := A.proto
  nbig := A.nbig + db
  calls := c

section
variable {dh db : Nat} {H0 : List HObj}

theorem Reloc.eq_relocSt {A B : DState} (h : Reloc dh db H0 A B) : dh = H0.length ∧ ∃ M' c, B = relocSt db H0 M' c A := by
  obtain ⟨rfl, hs, ⟨M', hm⟩, hh, hp, hn⟩ := h
  obtain ⟨stack, memo, heap, proto, nbig, calls⟩ := B
  exact ⟨rfl, M', calls, by simp only at hs hm hh hp hn; subst hs hm hh hp hn; rfl⟩

theorem reloc_relocSt (M' : List (Bytes × GoVal)) (c : List GoVal) (A : DState) : Reloc H0.length db H0 A (relocSt db H0 M' c A) :=
  ⟨rfl, rfl, ⟨M', rfl⟩, rfl, rfl, rfl⟩

end

theorem getElem?_append_map {α β} (f : α → β) (l0 : List β) (l : List α) (i : Nat) :
    (l0 ++ l.map f)[i + l0.length]? = l[i]?.map f := by
  rw [List.getElem?_append_right (Nat.le_add_left _ _), Nat.add_sub_cancel, List.getElem?_map]

theorem set_append_map {α β} (f : α → β) (l0 : List β) (l : List α) (i : Nat) (a : α) :
    (l0 ++ l.map f).set (i + l0.length) (f a) = l0 ++ (l.set i a).map f := by
  rw [List.set_append_right _ _ (Nat.le_add_left _ _), Nat.add_sub_cancel, List.map_set]

theorem lookup_map_append {key : Bytes} {v : GoVal} (f : GoVal → GoVal) : (l : List (Bytes × GoVal)) → (M : List (Bytes × GoVal)) →
    l.lookup key = some v → ((l.map fun e => (e.1, f e.2)) ++ M).lookup key = some (f v)
  | [], _, h => by simp at h
  | (k, x) :: l, M, h => by
    simp only [List.map_cons, List.cons_append, List.lookup] at h ⊢
    by_cases hk : key == k
    · simp only [hk] at h ⊢; cases h; rfl
    · simp only [Bool.not_eq_true] at hk
      simp only [hk] at h ⊢
      exact lookup_map_append f l M h

theorem xpop_cons (v : GoVal) (s : List GoVal) (m : List (Bytes × GoVal)) (h : List HObj) (p n : Nat) (cs : List GoVal) :
    xpop ⟨v :: s, m, h, p, n, cs⟩ = .ok (v, ⟨s, m, h, p, n, cs⟩) := rfl

section
variable {db : Nat} {H0 : List HObj} (M' : List (Bytes × GoVal)) (c : List GoVal) (A : DState)

theorem relocSt_stack : (relocSt db H0 M' c A).stack = shiftL H0.length db A.stack := rfl

theorem relocSt_proto : (relocSt db H0 M' c A).proto = A.proto := rfl

theorem xpop_relocSt :
    xpop (relocSt db H0 M' c A) = (xpop A).map fun p => (shiftV H0.length db p.1, relocSt db H0 M' c p.2) := by
  obtain ⟨stack, memo, heap, proto, nbig, calls⟩ := A
  cases stack <;> rfl

theorem popUser_relocSt :
    popUser (relocSt db H0 M' c A) = (popUser A).map fun p => (shiftV H0.length db p.1, relocSt db H0 M' c p.2) := by
  obtain ⟨stack, memo, heap, proto, nbig, calls⟩ := A
  cases stack with
  | nil => rfl
  | cons v s =>
    simp only [popUser, pop, relocSt_stack, shiftL, bind, Except.bind, userOK_shift]
    cases userOK v <;> rfl

theorem allocObj_relocSt (o : HObj) :
    allocObj (relocSt db H0 M' c A) (shiftO H0.length db o) =
      (relocSt db H0 M' c (allocObj A o).1, shiftV H0.length db (allocObj A o).2) := by
  simp only [allocObj, relocSt, shiftV, List.length_append, List.length_map, Nat.add_comm, List.map_append, List.map_cons, List.map_nil,
    List.append_assoc]

theorem mkList_relocSt (mc : MCfg) (xs : List GoVal) :
    mkList mc (relocSt db H0 M' c A) (shiftL H0.length db xs) =
      (relocSt db H0 M' c (mkList mc A xs).1, shiftV H0.length db (mkList mc A xs).2) := by
  unfold mkList
  cases mc.listRef
  · rfl
  · exact allocObj_relocSt M' c A { kind := .list, xs := xs }

theorem heapGet_relocSt (id : Nat) : (relocSt db H0 M' c A).heap[id + H0.length]? = A.heap[id]?.map (shiftO H0.length db) :=
  getElem?_append_map _ _ _ _

theorem heapSet_relocSt (id : Nat) (k : HKind) (kvs : Entries) (xs : List GoVal) :
    heapSet (relocSt db H0 M' c A) (id + H0.length) ⟨k, shiftP H0.length db kvs, shiftL H0.length db xs⟩ =
      relocSt db H0 M' c (heapSet A id ⟨k, kvs, xs⟩) :=
  congrArg (fun h => (⟨_, _, h, _, _, _⟩ : DState)) (set_append_map (shiftO H0.length db) H0 A.heap id ⟨k, kvs, xs⟩)

theorem listAppend_relocSt (l : GoVal) (items : List GoVal) :
    listAppend (relocSt db H0 M' c A) (shiftV H0.length db l) (shiftL H0.length db items) =
      (listAppend A l items).map fun p => (relocSt db H0 M' c p.1, shiftV H0.length db p.2) := by
  cases l
  case list xs => simp only [listAppend, shiftV, shiftL_append, Option.map_some]
  case href id =>
    simp only [listAppend, shiftV, heapGet_relocSt]
    cases A.heap[id]? with
    | none => rfl
    | some o =>
      simp only [Option.map_some, shiftO, ← shiftL_append]
      split
      · simp only [heapSet_relocSt, Option.map_some, shiftV]
      · rfl
  all_goals rfl

/-- The only place where the direction matters: what run `A` finds, run `B` finds moved; what `A` misses `B` may find
    among the entries of earlier pickles. -/
theorem memoGet_relocSt {key : Bytes} {v : GoVal} (h : memoGet A key = some v) :
    memoGet (relocSt db H0 M' c A) key = some (shiftV H0.length db v) :=
  lookup_map_append _ _ _ h

theorem memoPut_relocSt (key : Bytes) (v : GoVal) :
    memoPut (relocSt db H0 M' c A) key (shiftV H0.length db v) = relocSt db H0 (M'.filter (·.1 != key)) c (memoPut A key v) := by
  simp only [memoPut, relocSt, List.filter_append, List.map_cons, List.cons_append, List.filter_map]
  rfl

end

end Ogorek
