import Ogorek.Decoder

/-! Go panics are explicit outcomes of the model (`DErr.panic`, `QErr.panic`); each source is shown unreachable where
    it arises.  `NotPanic e` says it of an error, `NoPanic x` of a computation.  Here the string-escape decoder: its panic branch, a `\x` escape yielding a rune that is not a byte, is
    unreachable since two hex digits stay below 256. -/
namespace Ogorek

def NotPanic (e : DErr) : Prop := ∀ w, e ≠ .panic w

def NoPanic (x : M α) : Prop := ∀ w, x ≠ .error (.panic w)

theorem NoPanic.of_error {x : M α} (hx : NoPanic x) {e : DErr} (h : x = .error e) : NotPanic e :=
  fun w he => hx w (he ▸ h)

theorem NoPanic.bind {x : M α} {f : α → M β} (hx : NoPanic x) (hf : ∀ a, x = .ok a → NoPanic (f a)) :
    NoPanic (x >>= f) := by
  intro w h
  cases x with
  | error e => exact hx w (congrArg _ (Except.error.inj h))
  | ok a => exact hf a rfl w h

theorem NoPanic.ok (a : α) : NoPanic (.ok a : M α) := nofun
theorem NoPanic.pure (a : α) : NoPanic (pure a : M α) := nofun

theorem unhex_lt {b : UInt8} {x : Nat} (h : unhex? b = some x) : x < 16 := by
  unfold unhex? at h
  repeat' split at h
  all_goals simp at h
  all_goals subst h
  all_goals rename_i h1
  all_goals simp [UInt8.le_iff_toNat_le] at h1
  all_goals omega

theorem map_ne_panic {f : Bytes → Bytes} {x : Except QErr Bytes} (h : x ≠ .error .panic) :
    f <$> x ≠ .error .panic := by
  cases x <;> simp_all [Functor.map, Except.map]

theorem pydecodeStringEscape_no_panic (s : Bytes) : pydecodeStringEscape s ≠ .error .panic := by
  fun_induction pydecodeStringEscape s
  all_goals try (apply map_ne_panic; assumption)
  all_goals try simp_all
  rename_i hy hx hv _
  have := unhex_lt hx
  have := unhex_lt hy
  omega

end Ogorek
