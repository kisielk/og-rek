import Ogorek.Pvm
import Ogorek.Props.C07

/-! Python equality of dict keys in the model of CPython's unpickler (`pyEq`) is symmetric and transitive. -/
namespace Ogorek

theorem pyNum_wf {v : PyVal} {x : Num} (h : pyNum? v = some x) : NumWF x := by
  cases v <;> cases h <;> trivial

inductive PyAtom where
  | none | str (s : Bytes) | str2 (s : Bytes) | bytes (s : Bytes) | glob (m n : Bytes) | obj (id : Nat)

def PyAtom.eq : PyAtom → PyAtom → Bool
  | .none, .none => true
  | .str x, .str y => x == y
  | .str2 x, .str2 y => x == y
  | .bytes x, .bytes y => x == y
  | .glob m n, .glob m' n' => m == m' && n == n'
  | .obj x, .obj y => x == y
  | _, _ => false

theorem PyAtom.eq_iff {a b : PyAtom} : a.eq b = true ↔ a = b := by
  cases a <;> cases b <;> simp [PyAtom.eq]

theorem PyAtom.eq_comm (a b : PyAtom) : a.eq b = b.eq a :=
  Bool.eq_iff_iff.mpr (by rw [PyAtom.eq_iff, PyAtom.eq_iff]; exact _root_.eq_comm)

/-- What `==` dispatches on. -/
inductive PyView where
  | tuple (xs : List PyVal)
  | call (f : PyVal) (args : List PyVal)
  | pers (p : PyVal)
  | num (x : Num)
  | atom (a : PyAtom)
  | never

def pyView : PyVal → PyView
  | .tuple xs => .tuple xs
  | .call f xs => .call f xs
  | .pers p => .pers p
  | .bool b => .num (.bool b)
  | .int i => .num (.big i)
  | .float f => .num (.float f)
  | .none => .atom .none
  | .str s => .atom (.str s)
  | .str2 s => .atom (.str2 s)
  | .bytes s => .atom (.bytes s)
  | .glob m n => .atom (.glob m n)
  | .obj id => .atom (.obj id)
  | .list _ | .dict _ | .bytearray _ | .cycle => .never

def pyViewEq : PyView → PyView → Bool
  | .tuple xs, .tuple ys => pyEqList xs ys
  | .call f xs, .call g ys => pyEq f g && pyEqList xs ys
  | .pers p, .pers q => pyEq p q
  | .num x, .num y => numEq x y
  | .atom a, .atom b => a.eq b
  | _, _ => false

theorem pyEq_view (a b : PyVal) : pyEq a b = pyViewEq (pyView a) (pyView b) := by
  cases a <;> cases b <;> eq_refl

def PyView.isLeaf : PyView → Bool
  | .tuple _ | .call _ _ | .pers _ => false
  | _ => true

theorem pyNum?_view (v : PyVal) : pyNum? v = match pyView v with | .num x => some x | _ => none := by
  cases v <;> rfl

theorem pyView_num {a : PyVal} {x : Num} (h : pyNum? a = some x) : pyView a = .num x := by
  cases a <;> cases h <;> rfl

theorem pyEq_num {a : PyVal} {x : Num} (h : pyNum? a = some x) (b : PyVal) :
    pyEq a b = (match pyNum? b with | some y => numEq x y | none => false) := by
  rw [pyEq_view, pyView_num h, pyNum?_view b]
  cases pyView b <;> rfl

theorem pyEq_num_right {b : PyVal} {y : Num} (h : pyNum? b = some y) (a : PyVal) :
    pyEq a b = (match pyNum? a with | some x => numEq x y | none => false) := by
  rw [pyEq_view, pyView_num h, pyNum?_view a]
  cases pyView a <;> rfl

theorem pyViewEq_symm_leaf (u v : PyView) (h : u.isLeaf = true) : pyViewEq u v = pyViewEq v u := by
  cases u <;> first | cases h | skip
  all_goals cases v <;> first | rfl | skip
  · exact numEq_symm ..
  · exact PyAtom.eq_comm ..

/-- The cases of an induction over Python values as `==` sees them. -/
structure PyPartsStep (P : PyVal → Prop) (Q : List PyVal → Prop) : Prop where
  tuple : ∀ xs, Q xs → P (.tuple xs)
  call : ∀ f xs, P f → Q xs → P (.call f xs)
  pers : ∀ p, P p → P (.pers p)
  leaf : ∀ a, (pyView a).isLeaf = true → P a
  nil : Q []
  cons : ∀ x xs, P x → Q xs → Q (x :: xs)

mutual
theorem PyPartsStep.val {P : PyVal → Prop} {Q : List PyVal → Prop} (h : PyPartsStep P Q) : ∀ a, P a
  | .tuple xs => h.tuple xs (h.lst xs)
  | .call f xs => h.call f xs (h.val f) (h.lst xs)
  | .pers p => h.pers p (h.val p)
  | .none | .bool _ | .int _ | .float _ | .str _ | .str2 _ | .bytes _ | .glob _ _ | .obj _
  | .list _ | .dict _ | .bytearray _ | .cycle => h.leaf _ rfl
theorem PyPartsStep.lst {P : PyVal → Prop} {Q : List PyVal → Prop} (h : PyPartsStep P Q) : ∀ xs, Q xs
  | [] => h.nil
  | x :: xs => h.cons x xs (h.val x) (h.lst xs)
end

theorem pyEq_symm_parts : PyPartsStep (fun a => ∀ b, pyEq a b = pyEq b a) (fun xs => ∀ ys, pyEqList xs ys = pyEqList ys xs) := by
  refine ⟨?_, ?_, ?_, ?_, ?_, ?_⟩
  · intro xs ih b
    rw [pyEq_view, pyEq_view b]
    cases pyView b with
    | tuple ys => exact ih ys
    | _ => rfl
  · intro f xs ihf ih b
    rw [pyEq_view, pyEq_view b]
    cases pyView b with
    | call g ys =>
      show (pyEq f g && pyEqList xs ys) = (pyEq g f && pyEqList ys xs)
      rw [ihf g, ih ys]
    | _ => rfl
  · intro p ih b
    rw [pyEq_view, pyEq_view b]
    cases pyView b with
    | pers q => exact ih q
    | _ => rfl
  · intro a hl b
    rw [pyEq_view, pyEq_view b]
    exact pyViewEq_symm_leaf _ _ hl
  · intro ys
    cases ys <;> rfl
  · intro x xs ihx ihxs ys
    cases ys with
    | nil => rfl
    | cons y ys =>
      simp only [pyEqList]
      rw [ihx y, ihxs ys]

theorem pyEq_symm : ∀ a b : PyVal, pyEq a b = pyEq b a := pyEq_symm_parts.val

theorem pyEqList_symm : ∀ xs ys : List PyVal, pyEqList xs ys = pyEqList ys xs := pyEq_symm_parts.lst

theorem pyViewEq_trans_leaf {u v w : PyView} (hl : u.isLeaf = true) (h1 : pyViewEq u v = true) (h2 : pyViewEq v w = true)
    (hn : ∀ x y z, u = .num x → v = .num y → w = .num z → NumWF x ∧ NumWF y ∧ NumWF z) : pyViewEq u w = true := by
  cases u <;> first | cases hl | skip
  all_goals cases v <;> first | cases h1 | skip
  all_goals cases w <;> first | cases h2 | skip
  · obtain ⟨hx, hy, hz⟩ := hn _ _ _ rfl rfl rfl
    exact numEq_trans _ _ _ hx hy hz h1 h2
  · exact PyAtom.eq_iff.mpr ((PyAtom.eq_iff.mp h1).trans (PyAtom.eq_iff.mp h2))

theorem pyEq_trans_leaf {a b c : PyVal} (hl : (pyView a).isLeaf = true) (h1 : pyEq a b = true) (h2 : pyEq b c = true) :
    pyEq a c = true := by
  rw [pyEq_view] at h1 h2 ⊢
  exact pyViewEq_trans_leaf hl h1 h2 (fun _ _ _ ha hb hc =>
    ⟨pyNum_wf (by rw [pyNum?_view, ha]), pyNum_wf (by rw [pyNum?_view, hb]), pyNum_wf (by rw [pyNum?_view, hc])⟩)

theorem pyEq_trans_parts : PyPartsStep (fun a => ∀ b c, pyEq a b = true → pyEq b c = true → pyEq a c = true)
    (fun xs => ∀ ys zs, pyEqList xs ys = true → pyEqList ys zs = true → pyEqList xs zs = true) := by
  refine ⟨?_, ?_, ?_, fun _ hl _ _ => pyEq_trans_leaf hl, ?_, ?_⟩
  · intro xs ih b c h1 h2
    rw [pyEq_view] at h1 h2 ⊢
    generalize pyView b = v at h1 h2
    generalize pyView c = w at h2 ⊢
    cases v <;> first | cases h1 | skip
    cases w <;> first | cases h2 | skip
    exact ih _ _ h1 h2
  · intro f xs ihf ih b c h1 h2
    rw [pyEq_view] at h1 h2 ⊢
    generalize pyView b = v at h1 h2
    generalize pyView c = w at h2 ⊢
    cases v <;> first | cases h1 | skip
    cases w <;> first | cases h2 | skip
    have h1 := Bool.and_eq_true_iff.mp h1
    have h2 := Bool.and_eq_true_iff.mp h2
    exact Bool.and_eq_true_iff.mpr ⟨ihf _ _ h1.1 h2.1, ih _ _ h1.2 h2.2⟩
  · intro p ih b c h1 h2
    rw [pyEq_view] at h1 h2 ⊢
    generalize pyView b = v at h1 h2
    generalize pyView c = w at h2 ⊢
    cases v <;> first | cases h1 | skip
    cases w <;> first | cases h2 | skip
    exact ih _ _ h1 h2
  · intro ys zs h1 h2
    cases ys with
    | nil => exact h2
    | cons _ _ => cases h1
  · intro x xs ihx ihxs ys zs h1 h2
    cases ys with
    | nil => cases h1
    | cons y ys =>
      cases zs with
      | nil => cases h2
      | cons z zs =>
        have h1 := Bool.and_eq_true_iff.mp h1
        have h2 := Bool.and_eq_true_iff.mp h2
        exact Bool.and_eq_true_iff.mpr ⟨ihx y z h1.1 h2.1, ihxs ys zs h1.2 h2.2⟩

theorem pyEq_trans : ∀ a b c : PyVal, pyEq a b = true → pyEq b c = true → pyEq a c = true := pyEq_trans_parts.val

theorem pyEqList_trans : ∀ xs ys zs : List PyVal, pyEqList xs ys = true → pyEqList ys zs = true → pyEqList xs zs = true :=
  pyEq_trans_parts.lst

end Ogorek
