import Ogorek.Float
import Ogorek.Lemmas.Num

/-!
  `%g` text of a float64 holds no newline: digits, sign, point, exponent marker only.
-/
namespace Ogorek

def NoLF (l : Bytes) : Prop := (10 : UInt8) ∉ l

theorem NoLF.append {a b : Bytes} (ha : NoLF a) (hb : NoLF b) : NoLF (a ++ b) := by
  unfold NoLF at *; simp [ha, hb]

theorem NoLF.of_digits {l : Bytes} (h : l.all isDigit = true) : NoLF l := by
  intro hm
  have := List.all_eq_true.mp h 10 hm
  exact absurd this (by decide)

theorem NoLF.natDigits (n : Nat) : NoLF (natDigits n) := NoLF.of_digits (natDigits_all_digit n)

theorem all_digit_sublist {a b : Bytes} (h : a.Sublist b) (hb : b.all isDigit = true) : a.all isDigit = true := by
  rw [List.all_eq_true] at hb ⊢
  intro x hx
  exact hb x (h.subset hx)

theorem search_digits (m n d : Nat) (k : Int) (parsesBack : Nat → Int → Bool) :
    ∀ (fuel nd : Nat), (F64.shortest.search m n d k parsesBack fuel nd).1.all isDigit = true := by
  intro fuel
  induction fuel with
  | zero => intro nd; simp [F64.shortest.search, natDigits_all_digit]
  | succ fuel ih =>
    intro nd
    unfold F64.shortest.search
    simp only
    split
    · rename_i v _
      apply all_digit_sublist _ (natDigits_all_digit v)
      exact List.reverse_sublist.mp (by simpa using List.dropWhile_sublist _)
    · exact ih _

theorem shortest_digits (f : F64) : (F64.shortest f).1.all isDigit = true := by
  unfold F64.shortest
  exact search_digits _ _ _ _ _ _ _

theorem NoLF.of_decide {l : Bytes} (h : decide ((10 : UInt8) ∉ l) = true) : NoLF l :=
  (of_decide_eq_true h : (10 : UInt8) ∉ l)

theorem NoLF.cons {b : UInt8} {l : Bytes} (hb : b ≠ 10) (hl : NoLF l) : NoLF (b :: l) :=
  fun hm => (List.mem_cons.mp hm).elim (fun h => hb h.symm) hl

theorem NoLF.ite {c : Prop} [Decidable c] {a b : Bytes} (ha : NoLF a) (hb : NoLF b) : NoLF (if c then a else b) := by
  split <;> assumption

theorem NoLF.sublist {a b : Bytes} (h : a.Sublist b) (hb : NoLF b) : NoLF a := fun hm => hb (h.subset hm)

theorem NoLF.zeros (n : Nat) : NoLF (List.replicate n 48) := fun hm => absurd (List.eq_of_mem_replicate hm) (by decide)

theorem NoLF.pad2 (n : Nat) : NoLF (F64.pad2 n) := .ite (.cons (by decide) (.natDigits n)) (.natDigits n)

theorem fmtG_no_lf (f : F64) : (10 : UInt8) ∉ F64.fmtG f := by
  -- the words NaN / Inf, or: sign, digits of `shortest` (taken, dropped, padded with zeros), point, `e`, exponent
  have hsign : NoLF (if F64.signBit f = true then [(45 : UInt8)] else []) := .ite (.of_decide rfl) (.of_decide rfl)
  have hd := NoLF.of_digits (shortest_digits f)
  unfold F64.fmtG
  generalize F64.shortest f = sh at hd
  obtain ⟨ds, dp⟩ := sh
  refine NoLF.ite (.of_decide rfl) (.ite (.ite (.of_decide rfl) (.of_decide rfl)) (.ite (hsign.append (.of_decide rfl)) (.ite ?_ ?_)))
  · refine ((hsign.append (.append (hd.sublist (List.take_sublist ..)) (.ite (.of_decide rfl) ?_))).append ?_).append (.pad2 _)
    · exact .cons (by decide) (hd.sublist (List.drop_sublist ..))
    · exact .cons (by decide) (.cons (by split <;> decide) (.of_decide rfl))
  · refine (hsign.append (.ite (.append (hd.sublist (List.take_sublist ..)) (.zeros _)) (.of_decide rfl))).append (.ite (.of_decide rfl) ?_)
    exact .cons (by decide) (.append (.zeros _) (hd.sublist (List.drop_sublist ..)))

end Ogorek
