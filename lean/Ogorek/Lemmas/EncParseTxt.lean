import Ogorek.Lemmas.EncParse
import Ogorek.Lemmas.QuoteInv
import Ogorek.Lemmas.RueInv
import Ogorek.Lemmas.FmtG

/-!
  What the decoder's parse layer reads from the encoder's protocol-0 text forms.
-/
namespace Ogorek

/-- The one thing about protocol 0 that is assumed rather than proved: `strconv.ParseFloat` reads Go's
    `%g` text of this float back as the same float64 (true of every non-NaN float and of the canonical
    NaN by the shortest-round-trip property of strconv; the model's `fmtG` / `F64.parse` are validated
    against the implementation on every run). That the text holds no newline is proved (`fmtG_no_lf`). -/
def FloatTextOK (f : F64) : Prop := parseFloatArg (F64.fmtG f) = .ok (.pushFloat f)

theorem parses_float_txt (c : ECfg) (f : F64) (hp : ¬ c.proto ≥ 1) (hf : FloatTextOK f) :
    Parses (flat (encodeFloat c f)) [.pushFloat f] := by
  apply Parses.single rfl
  intro t
  simp only [encodeFloat, hp, if_false, flat_emit]
  have e : (70 :: F64.fmtG f ++ [10]) ++ t = 70 :: (F64.fmtG f ++ 10 :: t) := by simp
  rw [e]
  exact parseInsn_of parseArg_70 (Rd.mapE_ok (readLine_line _ _ (fmtG_no_lf f)) hf)

theorem parses_unicode_txt (c : ECfg) (s : Bytes) (hp : ¬ c.proto ≥ 1) (he : (encodeUnicode c s).err = none) :
    Parses (flat (encodeUnicode c s)) [.pushStr s] := by
  apply Parses.single rfl
  intro t
  simp only [encodeUnicode, hp, if_false] at he ⊢
  cases hu : pyencodeRawUnicodeEscape s with
  | none => rw [hu] at he; simp [failWith] at he
  | some u =>
    simp only [flat_emit]
    have e : (86 :: u ++ [10]) ++ t = 86 :: (u ++ 10 :: t) := by simp
    rw [e]
    refine parseInsn_of parseArg_86 (Rd.mapE_ok (readLine_line _ _ (rue_no_lf s u hu)) ?_)
    rw [parseUnicodeArg, rue_inv s u hu]

theorem parses_bytestring_txt (ip : IsPrint) (hip : ip 10 = false) (c : ECfg) (s : Bytes) (hp : ¬ c.proto ≥ 1) :
    Parses (flat (encodeByteString ip c s)) [.pushByteString s] := by
  apply Parses.single rfl
  intro t
  simp only [encodeByteString, hp, if_false, flat_emit]
  have hl := pyquote_no_lf ip hip s
  have e : (83 :: pyquote ip s ++ [10]) ++ t = 83 :: (pyquote ip s ++ 10 :: t) := by simp
  rw [e]
  have hq : parseStringArg (pyquote ip s) = .ok s := by
    unfold parseStringArg pyquote
    have hlen : ¬ ((34 :: (pyquoteAux ip s.length s ++ [34])).length < 2) := by simp
    simp only [hlen, if_false]
    simp [pyquote_inv ip s]
  refine parseInsn_of parseArg_83 (Rd.mapE_ok (readLine_line _ _ hl) ?_)
  rw [hq]; rfl

theorem parses_persid_txt (s : Bytes) (h : containsLF s = false) : Parses (flat (emit (80 :: s ++ [10]))) [.persid s] := by
  apply Parses.single rfl
  intro t
  have e : flat (emit (80 :: s ++ [10])) ++ t = 80 :: (s ++ 10 :: t) := by simp [flat_emit]
  rw [e]
  exact parseInsn_of parseArg_80 (Rd.map_ok _ (readLine_line _ _ (not_mem_of_containsLF h)))

/-- A uint64 above 2^63-1 is written as INT text, which the decoder reads as a `*big.Int`. -/
theorem parses_uint_big (u : Nat) (h : ¬ ((u : Int) ≤ maxInt64)) : Parses (flat (emit (73 :: natDigits u ++ [10]))) [.pushBig u] := by
  apply Parses.single rfl
  intro t
  have e : flat (emit (73 :: natDigits u ++ [10])) ++ t = 73 :: (fmtInt (u : Int) ++ 10 :: t) := by
    have : fmtInt (u : Int) = natDigits u := by
      unfold fmtInt
      have : ¬ ((u : Int) < 0) := by omega
      simp [this]
    simp [flat_emit, this]
  rw [e]
  have hn : inInt64 (u : Int) = false := by
    unfold inInt64; simp; intro _; omega
  refine parseInsn_of parseArg_73 (Rd.mapE_ok (readLine_line _ _ (fmtInt_no_lf _)) ?_)
  rw [parseIntArg_fmtInt, hn]; rfl

end Ogorek
