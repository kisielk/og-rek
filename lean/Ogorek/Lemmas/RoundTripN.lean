import Ogorek.Lemmas.RoundTrip

/-!
  The induction behind the round trip (C03, C18): what `enc v` wrote, run on the decoder machine from any state,
  pushes one value that represents `norm v`.

  `norm` is the documented normal form: unsigned integers and application structs have no counterpart among the
  types `Decode` produces; a uint64 comes back as the int64 of the same value, or a `*big.Int` above 2^63-1; a pointer
  to the application struct `UserObj{N}` comes back as the map / Dict of its fields — at any depth.  On canonical values `norm` is
  the identity (`norm_of_canon`), which gives `rt_val` from `rtn_val`.
-/
namespace Ogorek

mutual
def norm : GoVal → GoVal
  | .uint u => if (u : Int) ≤ maxInt64 then .int u else .big 0 u
  | .user n => .map [(.str (sb "N"), .int n)]
  | .list xs => .list (normList xs)
  | .tuple xs => .tuple (normList xs)
  | .call m n args => .call m n (normList args)
  | .ref p => .ref (norm p)
  | .map kvs => .map (normPairs kvs)
  | .dict kvs => .dict (normPairs kvs)
  | .mark => .mark
  | .none => .none
  | .bool b => .bool b
  | .int i => .int i
  | .big id i => .big id i
  | .float f => .float f
  | .complex re im => .complex re im
  | .str s => .str s
  | .bytestr s => .bytestr s
  | .bytes s => .bytes s
  | .bytearray s => .bytearray s
  | .href id => .href id
  | .cls m n => .cls m n
  | .cycle => .cycle
  | .nil => .nil
def normList : List GoVal → List GoVal
  | [] => []
  | x :: xs => norm x :: normList xs
def normPairs : List (GoVal × GoVal) → List (GoVal × GoVal)
  | [] => []
  | (k, v) :: r => (norm k, norm v) :: normPairs r
end

theorem normList_length : (xs : List GoVal) → (normList xs).length = xs.length
  | [] => rfl
  | _ :: xs => congrArg (· + 1) (normList_length xs)

theorem normPairs_length : (kvs : List (GoVal × GoVal)) → (normPairs kvs).length = kvs.length
  | [] => rfl
  | (_, _) :: r => congrArg (· + 1) (normPairs_length r)

mutual
theorem norm_of_canon {cfg : Cfg} {rk : Bool} : (v : GoVal) → canon cfg rk v = true → norm v = v
  | .list xs, h => congrArg GoVal.list (normList_of_canon xs h)
  | .tuple xs, h => congrArg GoVal.tuple (normList_of_canon xs h)
  | .call m n args, h => congrArg (GoVal.call m n) (normList_of_canon args (Bool.and_eq_true_iff.mp h).2)
  | .ref p, h => congrArg GoVal.ref (norm_of_canon p h)
  | .map kvs, h => congrArg GoVal.map (normPairs_of_canon kvs (Bool.and_eq_true_iff.mp h).1)
  | .dict kvs, h => congrArg GoVal.dict (normPairs_of_canon kvs (Bool.and_eq_true_iff.mp h).1)
  | .uint _, h | .user _, h => nomatch h
  | .none, _ | .nil, _ | .bool _, _ | .int _, _ | .big _ _, _ | .float _, _ | .complex _ _, _ | .str _, _ | .bytestr _, _
  | .bytes _, _ | .bytearray _, _ | .cls _ _, _ | .mark, _ | .href _, _ | .cycle, _ => rfl
theorem normList_of_canon {cfg : Cfg} {rk : Bool} : (xs : List GoVal) → canonList cfg rk xs = true → normList xs = xs
  | [], _ => rfl
  | x :: xs, h => by
    have h := Bool.and_eq_true_iff.mp h
    show norm x :: normList xs = x :: xs
    rw [norm_of_canon x h.1, normList_of_canon xs h.2]
theorem normPairs_of_canon {cfg : Cfg} {rk : Bool} : (kvs : List (GoVal × GoVal)) → canonPairs cfg rk kvs = true →
    normPairs kvs = kvs
  | [], _ => rfl
  | (k, v) :: r, h => by
    have h := Bool.and_eq_true_iff.mp h
    have hkv := Bool.and_eq_true_iff.mp h.1
    show (norm k, norm v) :: normPairs r = (k, v) :: r
    rw [norm_of_canon k hkv.1, norm_of_canon v hkv.2, normPairs_of_canon r h.2]
end

section main
variable {ρ : GoVal → GoVal} {rk : Bool}
variable {mc : MCfg} {hook : Hook} {c : ECfg} (ip : IsPrint)

theorem pushes_uint (u : Nat) : Pushes mc hook c (flat (encodeUint c u)) (fun h r => Rep mc ρ h r (norm (.uint u))) := by
  by_cases h : (u : Int) ≤ maxInt64
  · rw [show encodeUint c u = encodeInt c u from if_pos h, show norm (.uint u) = .int u from if_pos h]
    exact pushes_int u (by unfold inInt64 minInt64; simp; exact h)
  · rw [show encodeUint c u = _ from if_neg h, show norm (.uint u) = _ from if_neg h]
    exact Runs.one (parses_uint_big u h) fun _ st _ =>
      ⟨push { st with nbig := st.nbig + 1 } (.big st.nbig u), rfl, .of_heap_eq rfl rfl rfl, .big st.nbig u, rfl, st.nbig, rfl⟩

theorem pushes_user (hρ : rk = true → ∀ p, ρ p = .ref p) (hip : ip 10 = false) (hsu : mc.cfg.su = c.su) (n : Nat)
    (hc : canon mc.cfg rk (norm (.user n)) = true) (he : (enc ip c (.user n)).err = none) :
    Pushes mc hook c (flat (enc ip c (.user n))) (fun h r => Rep mc ρ h r (norm (.user n))) := by
  have hc := Bool.and_eq_true_iff.mp hc
  have hn : inInt64 (n : Int) = true := (Bool.and_eq_true_iff.mp (Bool.and_eq_true_iff.mp hc.1).1).2
  have e : enc ip c (.user n) = emit [40] +> (encodeString ip c (sb "N") +> encodeInt c n) +> emit [100] :=
    congrArg (· +> emit [100]) (seq_assoc _ _ _)
  rw [e] at he ⊢
  have hie := (seq_err_none (seq_err_none he).1).2
  obtain ⟨h2, _⟩ := seq_err_none hie
  have hitems : PushesN mc hook c (flat (encodeString ip c (sb "N") +> encodeInt c n)) 2
      (fun h rs => RepList mc ρ h rs (flatE [(.str (sb "N"), .int n)])) := by
    rw [flat_seq _ _ h2, ← List.append_nil (flat (encodeInt c n))]
    exact PushesN.cons (pushes_string ip hip hsu (sb "N") (by decide) h2) (PushesN.cons (pushes_int n hn) PushesN.nil)
  have := pushes_dictform (hook := hook) (c := c) hρ [(.str (sb "N"), .int n)] _ hc.2 hie hitems
  rwa [if_neg (fun h => Nat.succ_ne_zero 0 h.2)] at this

theorem pushes_tupleOf_encList (xs : List GoVal) (PL : List HObj → List GoVal → Prop)
    (he : (encodeTupleOf c xs.length (encList ip c xs)).err = none)
    (hi : (encList ip c xs).err = none → PushesN mc hook c (flat (encList ip c xs)) xs.length PL) :
    Pushes mc hook c (flat (encodeTupleOf c xs.length (encList ip c xs))) (fun h r => ∃ rs, r = .tuple rs ∧ PL h rs) := by
  have hie := encList_err_of_tuple ip c he
  refine pushes_tupleOf xs.length _ PL hie (fun h => ?_) (hi hie)
  rw [List.length_eq_zero_iff.mp h]; rfl

theorem err_of_markform {items : Out} {l : Nat} {b1 b2 : Bytes} (hl0 : l = 0 → items = Out.nil)
    (he : (if c.proto ≥ 1 ∧ l = 0 then emit b1 else emit [40] +> items +> emit b2).err = none) : items.err = none := by
  split at he
  · rename_i h; rw [hl0 h.2]; rfl
  · exact (seq_err_none (seq_err_none he).1).2

theorem encList_of_length_zero {xs : List GoVal} (h : xs.length = 0) : encList ip c xs = Out.nil := by
  rw [List.length_eq_zero_iff.mp h]; rfl

theorem encPairs_of_length_zero {kvs : List (GoVal × GoVal)} (h : kvs.length = 0) : encPairs ip c kvs = Out.nil := by
  rw [List.length_eq_zero_iff.mp h]; rfl

theorem enc_ref_p0 (h0 : c.proto = 0) (pid : GoVal) : enc ip c (.ref pid) = match pid with
    | .str s => if containsLF s then failWith .p0Persid else emit (80 :: s ++ [10])
    | _ => failWith .p0Persid := if_pos h0

/-! `enc`, `norm`, `canon`, `floatsOf` and `Rep` compute on a constructor, so each case states what it needs at the
    type it has after that computation (no equation lemmas). -/
mutual
theorem rtn_val (hh : HookFor hook ρ) (hρ : rk = true → ∀ p, ρ p = .ref p) (hip : ip 10 = false) (hsu : mc.cfg.su = c.su) (hlr : mc.listRef = false) :
    (v : GoVal) → canon mc.cfg rk (norm v) = true → FloatsOK c (floatsOf v) → (enc ip c v).err = none →
    Pushes mc hook c (flat (enc ip c v)) (fun h r => Rep mc ρ h r (norm v))
  | v, hc, hf, he => by
    cases v with
    | none | nil => exact pushes_none
    | bool b => exact pushes_bool b
    | int i => exact pushes_int i hc
    | big _ i => exact pushes_long i
    | float f => exact pushes_float f (hf f (List.mem_singleton_self f))
    | str s => exact pushes_string ip hip hsu s (of_decide_eq_true hc) he
    | bytestr s => exact pushes_bytestring ip hip s (of_decide_eq_true hc)
    | bytes s => exact pushes_bytes ip hip hsu s (of_decide_eq_true hc) he
    | bytearray s => exact pushes_bytearray ip hip hsu s (of_decide_eq_true hc) he
    | cls m n =>
      have hc := Bool.and_eq_true_iff.mp hc
      exact pushes_class ip hip hsu m n (of_decide_eq_true hc.1) (of_decide_eq_true hc.2) he
    | uint u => exact pushes_uint u
    | user n => exact pushes_user ip hρ hip hsu n hc he
    | list xs =>
      have hie := err_of_markform (encList_of_length_zero ip) he
      exact pushes_listform hlr xs.length (encList ip c xs) (fun h rs => RepList mc ρ h rs (normList xs)) hie
        (fun h => congrArg flat (encList_of_length_zero ip h)) (rtn_list hh hρ hip hsu hlr xs hc hf hie)
    | tuple xs =>
      exact pushes_tupleOf_encList ip xs (fun h rs => RepList mc ρ h rs (normList xs)) he (rtn_list hh hρ hip hsu hlr xs hc hf)
    | map kvs | dict kvs =>
      have hc := Bool.and_eq_true_iff.mp hc
      have hie := err_of_markform (encPairs_of_length_zero ip) he
      have hi := rtn_pairs hh hρ hip hsu hlr kvs hc.1 hf hie
      rw [← normPairs_length kvs, ← flatE_length] at hi
      have := pushes_dictform (hook := hook) (c := c) hρ (normPairs kvs) (encPairs ip c kvs) hc.2 hie hi
      rw [normPairs_length] at this
      exact this
    | call m n args =>
      have hc := Bool.and_eq_true_iff.mp hc
      have hc1 := Bool.and_eq_true_iff.mp hc.1
      have hc2 := Bool.and_eq_true_iff.mp hc1.1
      have hres : reservedCall m n = false := by simpa only [Bool.not_eq_true'] using hc1.2
      obtain ⟨h12, _⟩ := seq_err_none he
      obtain ⟨h1, h2⟩ := seq_err_none h12
      refine pushes_reduce m n _ _ _ _ h1 h2 (pushes_class ip hip hsu m n (of_decide_eq_true hc2.1) (of_decide_eq_true hc2.2) h1)
        (pushes_tupleOf_encList ip args _ h2 (rtn_list hh hρ hip hsu hlr args hc.2 hf)) ?_
      intro st rs _ hPL
      refine ⟨.call m n rs, ?_, rs, rfl, hPL⟩
      simp only [reduceRes, handleCall_none st.proto m n rs hres]
    | ref pid =>
      by_cases h0 : c.proto = 0
      · -- protocol 0: PERSID with a single-line string id
        rw [enc_ref_p0 ip h0] at he ⊢
        cases pid with
        | str s =>
          simp only at he ⊢
          by_cases hlf : containsLF s = true
          · rw [if_pos hlf] at he; cases he
          · rw [if_neg hlf] at he ⊢
            exact pushes_persid hh s (Bool.eq_false_iff.mpr hlf)
        | _ => cases he
      · have e : enc ip c (.ref pid) = enc ip c pid +> emit [81] := if_neg h0
        rw [e] at he ⊢
        obtain ⟨h1, _⟩ := seq_err_none he
        rw [flat_seq _ _ h1, flat_emit]
        exact pushes_ref hh (norm pid) _ (rtn_val hh hρ hip hsu hlr pid hc hf h1)
    | complex _ _ | mark | href _ | cycle => cases hc
theorem rtn_list (hh : HookFor hook ρ) (hρ : rk = true → ∀ p, ρ p = .ref p) (hip : ip 10 = false) (hsu : mc.cfg.su = c.su) (hlr : mc.listRef = false) :
    (xs : List GoVal) → canonList mc.cfg rk (normList xs) = true → FloatsOK c (floatsOfList xs) → (encList ip c xs).err = none →
    PushesN mc hook c (flat (encList ip c xs)) xs.length (fun h rs => RepList mc ρ h rs (normList xs))
  | [], _, _, _ => PushesN.nil
  | x :: xs, hc, hf, he => by
    have hc := Bool.and_eq_true_iff.mp hc
    obtain ⟨h1, h2⟩ := seq_err_none he
    rw [show flat (encList ip c (x :: xs)) = _ from flat_seq _ _ h1]
    exact PushesN.cons (rtn_val hh hρ hip hsu hlr x hc.1 hf.left h1) (rtn_list hh hρ hip hsu hlr xs hc.2 hf.right h2)
theorem rtn_pairs (hh : HookFor hook ρ) (hρ : rk = true → ∀ p, ρ p = .ref p) (hip : ip 10 = false) (hsu : mc.cfg.su = c.su) (hlr : mc.listRef = false) :
    (kvs : List (GoVal × GoVal)) → canonPairs mc.cfg rk (normPairs kvs) = true → FloatsOK c (floatsOfPairs kvs) → (encPairs ip c kvs).err = none →
    PushesN mc hook c (flat (encPairs ip c kvs)) (2 * kvs.length) (fun h rs => RepList mc ρ h rs (flatE (normPairs kvs)))
  | [], _, _, _ => PushesN.nil
  | (k, v) :: kvs, hc, hf, he => by
    have hc := Bool.and_eq_true_iff.mp hc
    have hkv := Bool.and_eq_true_iff.mp hc.1
    obtain ⟨h12, h3⟩ := seq_err_none he
    obtain ⟨h1, h2⟩ := seq_err_none h12
    rw [show flat (encPairs ip c ((k, v) :: kvs)) = _ from flat_seq _ _ h12, flat_seq _ _ h1, List.append_assoc]
    exact PushesN.cons (rtn_val hh hρ hip hsu hlr k hkv.1 hf.left.left h1)
      (PushesN.cons (rtn_val hh hρ hip hsu hlr v hkv.2 hf.left.right h2) (rtn_pairs hh hρ hip hsu hlr kvs hc.2 hf.right h3))
end

theorem rt_val (hh : HookFor hook ρ) (hρ : rk = true → ∀ p, ρ p = .ref p) (hip : ip 10 = false) (hsu : mc.cfg.su = c.su) (hlr : mc.listRef = false) :
    (v : GoVal) → canon mc.cfg rk v = true → FloatsOK c (floatsOf v) → (enc ip c v).err = none →
    Pushes mc hook c (flat (enc ip c v)) (fun h r => Rep mc ρ h r v) := fun v hc hf he => by
  have e := norm_of_canon v hc
  have := rtn_val ip hh hρ hip hsu hlr v (e.symm ▸ hc) hf he
  rwa [e] at this
theorem rt_list (hh : HookFor hook ρ) (hρ : rk = true → ∀ p, ρ p = .ref p) (hip : ip 10 = false) (hsu : mc.cfg.su = c.su) (hlr : mc.listRef = false) :
    (xs : List GoVal) → canonList mc.cfg rk xs = true → FloatsOK c (floatsOfList xs) → (encList ip c xs).err = none →
    PushesN mc hook c (flat (encList ip c xs)) xs.length (fun h rs => RepList mc ρ h rs xs) := fun xs hc hf he => by
  have e := normList_of_canon xs hc
  have := rtn_list ip hh hρ hip hsu hlr xs (e.symm ▸ hc) hf he
  rwa [e] at this
theorem rt_pairs (hh : HookFor hook ρ) (hρ : rk = true → ∀ p, ρ p = .ref p) (hip : ip 10 = false) (hsu : mc.cfg.su = c.su) (hlr : mc.listRef = false) :
    (kvs : List (GoVal × GoVal)) → canonPairs mc.cfg rk kvs = true → FloatsOK c (floatsOfPairs kvs) → (encPairs ip c kvs).err = none →
    PushesN mc hook c (flat (encPairs ip c kvs)) (flatE kvs).length (fun h rs => RepList mc ρ h rs (flatE kvs)) := fun kvs hc hf he => by
  have e := normPairs_of_canon kvs hc
  have := rtn_pairs ip hh hρ hip hsu hlr kvs (e.symm ▸ hc) hf he
  rwa [e, ← flatE_length] at this

end main

end Ogorek
