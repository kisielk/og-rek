import Ogorek.Lemmas.QuoteInv
import Ogorek.Lemmas.Utf8Inv

/-!
  `pydecodeRawUnicodeEscape ∘ pyencodeRawUnicodeEscape = id` on every string the encoder accepts (valid UTF-8), and
  the encoder's output holds no newline: the protocol-0 UNICODE form carries any text exactly.  Proved for a writer
  `rueWith esc`, `esc` any set of characters below U+0100 written as `\u00XX` that holds the backslash (for the
  newline: LF): og-rek's encoder, CPython's and Python 2's writers are instances.
-/
namespace Ogorek

theorem hexLower_zero : hexLower 0 = 48 := by decide

theorem hexN_digits (r : Nat) (rest : Bytes) : ∀ n,
    hexN n ((List.range n).map (fun i => hexLower (r / 16 ^ (n - 1 - i))) ++ rest) (r / 16 ^ n) = some (r, rest)
  | 0 => by simp [hexN]
  | n + 1 => by
    have hstep : r / 16 ^ (n + 1) * 16 + r / 16 ^ n % 16 = r / 16 ^ n := by
      rw [Nat.pow_succ, ← Nat.div_div_eq_div_mul, Nat.div_add_mod']
    have ih := hexN_digits r rest n
    simp only [List.range_succ_eq_map, List.map_cons, List.map_map, List.cons_append, hexN, unhex_hexLower,
      Nat.add_sub_cancel, Nat.sub_zero, hstep]
    have hf : ((fun i => hexLower (r / 16 ^ (n - i))) ∘ Nat.succ) = fun i => hexLower (r / 16 ^ (n - 1 - i)) :=
      funext fun i => by simp only [Function.comp, Nat.succ_eq_add_one, Nat.sub_add_eq, Nat.sub_right_comm]
    rw [hf]; exact ih


theorem rue_copy (b : UInt8) (rest : Bytes) (rt : List Nat) (hb : b ≠ 92)
    (h : pydecodeRawUnicodeEscapeRunes 0 rest = .ok rt) :
    pydecodeRawUnicodeEscapeRunes 0 (b :: rest) = .ok (b.toNat :: rt) := by
  rw [pydecodeRawUnicodeEscapeRunes]; simp [hb, h, Functor.map, Except.map]

theorem rue_escape {c : UInt8} {n : Nat} (hc : c = 117 ∧ n = 4 ∨ c = 85 ∧ n = 8) {r : Nat} (hr : r < 16 ^ n)
    (hv : validRune r = true) {rest : Bytes} {rt : List Nat} (h : pydecodeRawUnicodeEscapeRunes 0 rest = .ok rt) :
    pydecodeRawUnicodeEscapeRunes 0 (92 :: c :: ((List.range n).map (fun i => hexLower (r / 16 ^ (n - 1 - i))) ++ rest))
      = .ok (r :: rt) := by
  have hd := hexN_digits r rest n
  rw [Nat.div_eq_of_lt hr] at hd
  have hl : ((List.range n).map (fun i => hexLower (r / 16 ^ (n - 1 - i))) ++ rest).drop n = rest :=
    List.drop_left' (by simp)
  rw [pydecodeRawUnicodeEscapeRunes]
  rcases hc with ⟨rfl, rfl⟩ | ⟨rfl, rfl⟩ <;>
    simp [hd, hv, h, hl, Functor.map, Except.map]

def ruePiece (esc : Nat → Bool) (r : Nat) : Bytes :=
  if esc r then [92, 117, 48, 48, hexLower (r / 16), hexLower r]
  else if r ≥ 0x10000 then [92, 85] ++ (List.range 8).map fun i => hexLower (r / 16 ^ (7 - i))
  else if r ≥ 0x100 then [92, 117] ++ (List.range 4).map fun i => hexLower (r / 16 ^ (3 - i))
  else [UInt8.ofNat r]

/-- `pyencodeRawUnicodeEscapeAux`, `cpRueAux` and `py2RueAux` are copies of this loop at their `esc`. -/
def rueWith (esc : Nat → Bool) : Nat → Bytes → Option Bytes
  | 0, _ => some []
  | fuel + 1, s =>
    match decodeRune s with
    | (_, 0) => some []
    | (r, w) => if r = runeError && w = 1 then none else (ruePiece esc r ++ ·) <$> rueWith esc fuel (s.drop w)

theorem pyencodeRawUnicodeEscapeAux_eq : pyencodeRawUnicodeEscapeAux = rueWith fun r => r = 92 || r = 10 := by
  funext fuel
  induction fuel with
  | zero => rfl
  | succ n ih => funext s; simp only [pyencodeRawUnicodeEscapeAux, rueWith, ih]; rfl

theorem ruePiece_decode {esc : Nat → Bool} (h92 : esc 92 = true) (hesc : ∀ r, esc r = true → r < 256) {r : Nat}
    (hv : validRune r = true) {rest : Bytes} {rt : List Nat} (h : pydecodeRawUnicodeEscapeRunes 0 rest = .ok rt) :
    pydecodeRawUnicodeEscapeRunes 0 (ruePiece esc r ++ rest) = .ok (r :: rt) := by
  unfold ruePiece
  split
  · have hr := hesc r ‹_›
    have := rue_escape (.inl ⟨rfl, rfl⟩) (Nat.lt_trans hr (by decide)) hv h
    simpa [List.range, List.range.loop, Nat.div_eq_of_lt (Nat.lt_trans hr (by decide : 256 < 4096)), Nat.div_eq_of_lt hr, hexLower_zero] using this
  split
  · exact rue_escape (.inr ⟨rfl, rfl⟩) (Nat.lt_of_le_of_lt (validRune_iff.mp hv |>.elim (Nat.le_of_lt ∘ (Nat.lt_trans · (by decide))) (·.2)) (by decide)) hv h
  split
  · exact rue_escape (.inl ⟨rfl, rfl⟩) (Nat.not_le.mp ‹_›) hv h
  · have hr : r < 256 := Nat.not_le.mp ‹_›
    have := rue_copy (UInt8.ofNat r) rest rt ?_ h
    · simpa [Nat.mod_eq_of_lt hr] using this
    · intro hb
      have : r = 92 := by simpa [Nat.mod_eq_of_lt hr] using congrArg UInt8.toNat hb
      exact absurd (this ▸ h92) ‹_›

theorem rueWith_inv {esc : Nat → Bool} (h92 : esc 92 = true) (hesc : ∀ r, esc r = true → r < 256) :
    ∀ (fuel : Nat) (s u tail : Bytes) (rt : List Nat), s.length ≤ fuel →
    rueWith esc fuel s = some u → pydecodeRawUnicodeEscapeRunes 0 tail = .ok rt →
    ∃ rs, pydecodeRawUnicodeEscapeRunes 0 (u ++ tail) = .ok (rs ++ rt) ∧ rs.flatMap encodeRune = s
  | 0, s, u, tail, rt, hl, he, h => by
    cases he
    exact ⟨[], h, (List.length_eq_zero_iff.mp (Nat.le_zero.mp hl)).symm⟩
  | fuel + 1, [], u, tail, rt, hl, he, h => by
    cases he
    exact ⟨[], h, rfl⟩
  | fuel + 1, b0 :: rest, u, tail, rt, hl, he, h => by
    obtain ⟨r, w, hd, hs⟩ := decodeRune_cons_exact b0 rest
    have hwl := hs.width_le
    simp only [rueWith, hd] at he
    split at he
    · cases he
    rename_i hbad
    obtain ⟨henc, hvalid⟩ := encodeRune_of_exact hs (by simpa using hbad)
    cases hrec : rueWith esc fuel ((b0 :: rest).drop (w + 1)) with
    | none => rw [hrec] at he; cases he
    | some u' =>
      rw [hrec] at he
      cases he
      obtain ⟨rs', hdec', hflat'⟩ := rueWith_inv h92 hesc fuel _ u' tail rt (by simp at hl hwl ⊢; omega) hrec h
      refine ⟨r :: rs', ?_, ?_⟩
      · rw [List.append_assoc]
        exact ruePiece_decode h92 hesc hvalid hdec'
      · rw [List.flatMap_cons, hflat', henc]
        exact List.take_append_drop _ _

theorem ruePiece_no_lf {esc : Nat → Bool} (h10 : esc 10 = true) (r : Nat) : (10 : UInt8) ∉ ruePiece esc r := by
  have hex : ∀ (n : Nat) (f : Nat → Nat), (10 : UInt8) ∉ (List.range n).map fun i => hexLower (f i) := fun n f hm =>
    have ⟨i, _, hi⟩ := List.mem_map.mp hm
    hexLower_ne_lf _ hi
  unfold ruePiece
  split
  · simp [(hexLower_ne_lf _).symm]
  split
  · simp [hex]
  split
  · simp [hex]
  · rename_i hesc _ hr
    have hr : r < 256 := Nat.not_le.mp hr
    intro hm
    have : r = 10 := by simpa [Nat.mod_eq_of_lt hr] using congrArg UInt8.toNat (List.mem_singleton.mp hm).symm
    exact hesc (this ▸ h10)

theorem rueWith_no_lf {esc : Nat → Bool} (h10 : esc 10 = true) : ∀ (fuel : Nat) (s u : Bytes),
    rueWith esc fuel s = some u → (10 : UInt8) ∉ u
  | 0, _, _, he => by cases he; simp
  | fuel + 1, s, u, he => by
    simp only [rueWith] at he
    split at he
    · cases he; simp
    split at he
    · cases he
    cases hrec : rueWith esc fuel (s.drop _) with
    | none => rw [hrec] at he; cases he
    | some u' =>
      rw [hrec] at he
      cases he
      exact fun hm => (List.mem_append.mp hm).elim (ruePiece_no_lf h10 _) (rueWith_no_lf h10 fuel _ u' hrec)

theorem rueWith_decode {esc : Nat → Bool} (h92 : esc 92 = true) (hesc : ∀ r, esc r = true → r < 256) {s u : Bytes}
    (h : rueWith esc s.length s = some u) : pydecodeRawUnicodeEscape u = .ok s := by
  obtain ⟨rs, hd, hf⟩ := rueWith_inv h92 hesc s.length s u [] [] (Nat.le_refl _) h (by rw [pydecodeRawUnicodeEscapeRunes])
  rw [List.append_nil, List.append_nil] at hd
  rw [pydecodeRawUnicodeEscape, hd, ← hf]
  rfl

theorem rue_inv (s u : Bytes) (h : pyencodeRawUnicodeEscape s = some u) : pydecodeRawUnicodeEscape u = .ok s :=
  rueWith_decode (esc := fun r => r = 92 || r = 10) rfl (fun r hr => by simp at hr; omega)
    (pyencodeRawUnicodeEscapeAux_eq ▸ h)

theorem rue_no_lf (s u : Bytes) (h : pyencodeRawUnicodeEscape s = some u) : (10 : UInt8) ∉ u :=
  rueWith_no_lf (esc := fun r => r = 92 || r = 10) rfl s.length s u (pyencodeRawUnicodeEscapeAux_eq ▸ h)

end Ogorek
