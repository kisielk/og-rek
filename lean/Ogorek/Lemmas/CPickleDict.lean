import Ogorek.Lemmas.CPickleCont
import Ogorek.Lemmas.Step

/-!
  Decoding what CPython's pickler writes (C02): the SETITEM / SETITEMS groups that fill a dict
  created empty.  The dict lives in the heap and is updated in place; the keys and values decoded
  so far stay valid because they only refer to objects allocated after the dict (the `id + 1` of `DictTop`).
-/
namespace Ogorek

theorem freshOverB_prefix {eqf : GoVal → GoVal → Bool} : (a b old : List GoVal) → freshOverB eqf old (a ++ b) = true →
    freshOverB eqf old a = true
  | [], _, _, _ => rfl
  | k :: a, b, old, h => by
    simp only [List.cons_append, freshOverB, Bool.and_eq_true] at h ⊢
    exact ⟨h.1, freshOverB_prefix a b _ h.2⟩

theorem keysOK_prefix (cfg : Cfg) (rk : Bool) (a b : Entries) (h : keysOK cfg rk (a ++ b) = true) : keysOK cfg rk a = true := by
  -- either dict mode asks a predicate of every entry and the keys to be pairwise different
  have both : ∀ (p : GoVal × GoVal → Bool) (eqf : GoVal → GoVal → Bool),
      ((a ++ b).all p && freshOverB eqf [] ((a ++ b).map (·.1))) = true → (a.all p && freshOverB eqf [] (a.map (·.1))) = true := by
    intro p eqf h
    rw [Bool.and_eq_true] at h ⊢
    rw [List.all_append, Bool.and_eq_true, List.map_append] at h
    exact ⟨h.1.1, freshOverB_prefix _ _ _ h.2⟩
  unfold keysOK at *
  by_cases hpd : cfg.pyDict = true
  · rw [if_pos hpd] at h ⊢
    exact both _ _ h
  · rw [if_neg hpd] at h ⊢
    exact both _ _ h

def flatPy : List (PyObj × PyObj) → List PyObj
  | [] => []
  | (k, v) :: r => k :: v :: flatPy r

theorem flatten_map_pair : (l : List (Bytes × (PyObj × PyObj))) →
    (l.map fun x => [x.2.1, x.2.2]).flatten = flatPy (l.map (·.2))
  | [] => rfl
  | x :: l => by simp [flatPy, flatten_map_pair l]

theorem flatPy_append : (a b : List (PyObj × PyObj)) → flatPy (a ++ b) = flatPy a ++ flatPy b
  | [], _ => rfl
  | (k, v) :: a, b => by simp [flatPy, flatPy_append a b]

theorem repGPairs_of_flat {cfg : Cfg} {n : Nat} {h : List HObj} : (kvs : List (PyObj × PyObj)) → (rs : List GoVal) →
    RepGList cfg n h rs (flatPy kvs) → ∃ es, rs = flatE es ∧ RepGPairs cfg n h es kvs
  | [], [], _ => ⟨[], rfl, trivial⟩
  | [], _ :: _, hr | (_, _) :: _, [], hr => hr.elim
  | (_, _) :: _, [_], ⟨_, hr⟩ => hr.elim
  | (_, _) :: kvs, rk :: rv :: rs, ⟨h1, h2, h3⟩ =>
    have ⟨es, e, hp⟩ := repGPairs_of_flat kvs rs h3
    ⟨(rk, rv) :: es, by rw [e]; rfl, h1, h2, hp⟩

theorem goOfPairs_append : (a b : List (PyObj × PyObj)) → goOfPairs (a ++ b) = goOfPairs a ++ goOfPairs b
  | [], _ => rfl
  | (k, v) :: a, b => by simp [goOfPairs, goOfPairs_append a b]

section
variable {mc : MCfg} {hook : Hook} {c : ECfg} {ρ : GoVal → GoVal} {rk : Bool}

theorem assignAll_batch (hρ : rk = true → ∀ p, ρ p = .ref p) {h : List HObj} (kvs es0 es1 : Entries)
    (hk : keysOK mc.cfg rk kvs = true) (hp : RepPairs mc ρ h (es0 ++ es1) kvs) :
    assignAll (dictKind mc.cfg) es0 (flatE es1) = some (es0 ++ es1) :=
  assignAll_from hρ kvs es0 es1 hk hp

end

section
variable {mc : MCfg} {hook : Hook} {c : ECfg} {σ : Type} {I : σ → DState → Prop}

def DictTop (cfg : Cfg) (kvs0 : List (PyObj × PyObj)) (st : DState) : Prop :=
  ∃ id s0 es0, st.stack = .href id :: s0 ∧ st.heap[id]? = some { kind := dictKind cfg, kvs := es0 } ∧
    RepGPairs cfg (id + 1) st.heap es0 kvs0

/-- What a group of SETITEM(S) does: the dict on top gets entries for `kvs1` added in place; the stack and every other
    old heap object stay. -/
def DictQ (cfg : Cfg) (kvs0 kvs1 : List (PyObj × PyObj)) (st st' : DState) : Prop :=
  ∀ id s0 es0, st.stack = .href id :: s0 → st.heap[id]? = some { kind := dictKind cfg, kvs := es0 } →
    RepGPairs cfg (id + 1) st.heap es0 kvs0 →
    ∃ es1, st'.stack = .href id :: s0 ∧ st'.heap[id]? = some { kind := dictKind cfg, kvs := es0 ++ es1 } ∧
      RepGPairs cfg (id + 1) st'.heap (es0 ++ es1) (kvs0 ++ kvs1) ∧ st.heap.length ≤ st'.heap.length ∧
      (∀ i, i < st.heap.length → i ≠ id → st'.heap[i]? = st.heap[i]?)

theorem DictQ.nil {cfg : Cfg} {kvs0 : List (PyObj × PyObj)} (st : DState) : DictQ cfg kvs0 [] st st :=
  fun _ _ _ hs hh hr => ⟨[], hs, by simpa using hh, by simpa using hr, Nat.le_refl _, fun _ _ _ => rfl⟩

theorem DictQ.top {cfg : Cfg} {kvs0 kvs1 : List (PyObj × PyObj)} {st st' : DState} (q : DictQ cfg kvs0 kvs1 st st')
    (ht : DictTop cfg kvs0 st) : DictTop cfg (kvs0 ++ kvs1) st' :=
  have ⟨id, s0, es0, hs, hh, hr⟩ := ht
  have ⟨es1, hs', hh', hr', _⟩ := q id s0 es0 hs hh hr
  ⟨id, s0, es0 ++ es1, hs', hh', hr'⟩

theorem DictQ.trans {cfg : Cfg} {kvs0 kvs1 kvs2 : List (PyObj × PyObj)} {st st1 st2 : DState} (q1 : DictQ cfg kvs0 kvs1 st st1)
    (q2 : DictQ cfg (kvs0 ++ kvs1) kvs2 st1 st2) : DictQ cfg kvs0 (kvs1 ++ kvs2) st st2 := by
  intro id s0 es0 hs hh hr
  obtain ⟨es1, hs1, hh1, hr1, hl1, ho1⟩ := q1 id s0 es0 hs hh hr
  obtain ⟨es2, hs2, hh2, hr2, hl2, ho2⟩ := q2 id s0 (es0 ++ es1) hs1 hh1 hr1
  refine ⟨es1 ++ es2, hs2, by simpa [List.append_assoc] using hh2, by simpa [List.append_assoc] using hr2, Nat.le_trans hl1 hl2, ?_⟩
  intro i hi hne
  rw [ho2 i (by omega) hne, ho1 i hi hne]

theorem dictKind_not_list (cfg : Cfg) : (dictKind cfg == HKind.list) = false := by
  unfold dictKind; split <;> rfl

theorem DictQ.fill {st st1 : DState} {id : Nat} {s0 rs : List GoVal} {es0 : Entries} {kvs0 kvsg : List (PyObj × PyObj)}
    (hs : st.stack = .href id :: s0) (hh : st.heap[id]? = some { kind := dictKind mc.cfg, kvs := es0 })
    (hr0 : RepGPairs mc.cfg (id + 1) st.heap es0 kvs0)
    (hr : RepGList mc.cfg st.heap.length st1.heap rs (flatPy kvsg)) (hk : KeepsH st st1)
    (hkeys : keysOK mc.cfg false (goOfPairs (kvs0 ++ kvsg)) = true) :
    ∃ es1, rs = flatE es1 ∧ st1.heap[id]? = some { kind := dictKind mc.cfg, kvs := es0 } ∧
      assignAll (dictKind mc.cfg) es0 rs = some (es0 ++ es1) ∧
      DictQ mc.cfg kvs0 kvsg st (heapSet { st1 with stack := .href id :: s0 } id { kind := dictKind mc.cfg, kvs := es0 ++ es1 }) := by
  have hlt : id < st.heap.length := getElem?_lt_of_some hh
  obtain ⟨es1, rfl, hp1⟩ := repGPairs_of_flat kvsg rs hr
  have h0 : RepGPairs mc.cfg (id + 1) st1.heap es0 kvs0 :=
    RepGPairs.congr mc.cfg (AgreeL.mono hk.2 (Nat.zero_le _)) (Nat.le_refl _) es0 kvs0 hr0
  have h1 : RepGPairs mc.cfg (id + 1) st1.heap es1 kvsg :=
    RepGPairs.congr mc.cfg (AgreeL.refl _ _) (by omega) es1 kvsg hp1
  have hall := RepGPairs.append h0 h1
  refine ⟨es1, rfl, (hk.2 id (Nat.zero_le _) hlt).trans hh,
    assignAll_batch (mc := mc) (ρ := _root_.id) (rk := false) nofun _ es0 es1 hkeys (RepGPairs.toRep mc _root_.id _ _ hall), ?_⟩
  intro id' s0' es0' hs' hh' _
  rw [hs] at hs'
  cases hs'
  rw [hh] at hh'
  cases hh'
  have hlt1 : id < st1.heap.length := Nat.lt_of_lt_of_le hlt hk.1
  refine ⟨es1, rfl, List.getElem?_set_self hlt1,
    RepGPairs.congr mc.cfg (AgreeL.set _ id _ (Nat.lt_succ_self id)) (Nat.le_refl _) _ _ hall, by simpa [heapSet] using hk.1, ?_⟩
  intro i hi hne
  simp only [heapSet]
  rw [List.getElem?_set_ne (Ne.symm hne)]
  exact hk.2 i (Nat.zero_le _) hi

theorem runs_dictGroup (hI : MemoOnly I) (kvs0 : List (PyObj × PyObj)) (g : Grp (PyObj × PyObj)) {s s' : σ}
    (hf : FragsGN mc hook c I (g.items.map (·.1)) (g.items.map fun x => [x.2.1, x.2.2]) s s')
    (hkeys : keysOK mc.cfg false (goOfPairs (kvs0 ++ g.items.map (·.2))) = true) :
    RunsP mc hook c (encGrp 115 117 g) (fun st => I s st ∧ DictTop mc.cfg kvs0 st)
      (fun st st' => I s' st' ∧ DictQ mc.cfg kvs0 (g.items.map (·.2)) st st') := by
  have hfl := FragsGN.flatten hf
  rw [flatten_map_pair] at hfl
  cases g with
  | single x =>
    simp only [Grp.items, List.map_cons, List.map_nil, List.flatten_cons, List.flatten_nil, List.append_nil] at hfl hkeys
    refine RunsP.snoc (RunsP.weaken hfl (fun _ h => h.1) (fun _ _ _ _ q => q)) (parses_op 115 .setitem rfl parseArg_115) ?_
    rintro pos st st' _ ⟨_, id, s0, es0, hs, hh, hr0⟩ _ ⟨hj, rs, hst, hr, hk⟩
    obtain ⟨es1, rfl, hh1, hass, hq⟩ := DictQ.fill hs hh hr0 hr hk hkeys
    have hlen : 2 * es1.length = 2 := (flatE_length es1).symm.trans hr.length
    obtain ⟨⟨rk, rv⟩, rfl⟩ := List.length_eq_one_iff.mp (Nat.eq_of_mul_eq_mul_left Nat.two_pos hlen)
    have hmk : isMark rk = false := hr.no_mark rk (by simp [flatE])
    have hmv : isMark rv = false := hr.no_mark rv (by simp [flatE])
    have hst' : st'.stack = rv :: rk :: .href id :: s0 := by rw [hst, hs]; simp [flatE]
    have hta : tryAssign (dictKind mc.cfg) es0 rk rv = some (es0 ++ [(rk, rv)]) := by
      simp only [flatE, assignAll] at hass
      cases ht : tryAssign (dictKind mc.cfg) es0 rk rv with
      | none => rw [ht] at hass; simp at hass
      | some es' => rw [ht] at hass; simpa [assignAll] using hass
    refine ⟨heapSet { st' with stack := .href id :: s0 } id { kind := dictKind mc.cfg, kvs := es0 ++ [(rk, rv)] }, ?_, rfl,
      hI _ st' _ rfl hj, hq⟩
    rw [exec_setitem hst' hmk hmv hh1 (dictKind_not_list _)]
    simp only [hta]
  | multi xs =>
    simp only [Grp.items] at hfl hkeys ⊢
    show RunsP mc hook c ((40 :: (xs.map (·.1)).flatten) ++ [117]) _ _
    refine RunsP.snoc (RunsP.weaken (PushesGN.marked hI hfl) (fun _ h => h.1) (fun _ _ _ _ q => q)) (parses_op 117 .setitems rfl parseArg_117) ?_
    rintro pos st st' _ ⟨_, id, s0, es0, hs, hh, hr0⟩ _ ⟨hj, rs, hst, hr, hk⟩
    obtain ⟨es1, hrs, hh1, hass, hq⟩ := DictQ.fill hs hh hr0 hr hk hkeys
    have hsp : splitAtMark st'.stack = some (rs.reverse, .href id :: s0) := by
      rw [hst, hs]
      exact splitAtMark_append rs.reverse _ (fun r hr' => hr.no_mark r (by simpa using hr'))
    have heven : ¬ (rs.reverse.length % 2 ≠ 0) := by rw [hrs]; simp [flatE_length]
    refine ⟨heapSet { st' with stack := .href id :: s0 } id { kind := dictKind mc.cfg, kvs := es0 ++ es1 }, ?_, rfl,
      hI _ st' _ rfl hj, hq⟩
    simp only [exec, hsp, heven, if_false, List.reverse_reverse, hh1, dictKind_not_list, hass]
    simp [heapSet]

theorem runs_dictGroups (hI : MemoOnly I) : (gs : List (Grp (PyObj × PyObj))) → (kvs0 : List (PyObj × PyObj)) → {s s' : σ} →
    FragsGN mc hook c I ((grpItems gs).map (·.1)) ((grpItems gs).map fun x => [x.2.1, x.2.2]) s s' →
    keysOK mc.cfg false (goOfPairs (kvs0 ++ (grpItems gs).map (·.2))) = true →
    RunsP mc hook c (encGrps 115 117 gs) (fun st => I s st ∧ DictTop mc.cfg kvs0 st)
      (fun st st' => I s' st' ∧ DictQ mc.cfg kvs0 ((grpItems gs).map (·.2)) st st')
  | [], kvs0, s, _, hf, _ => by
    cases (hf : s = _)
    exact RunsP.nil fun st hp => ⟨hp.1, DictQ.nil st⟩
  | g :: gs, kvs0, s, s', hf, hkeys => by
    simp only [grpItems_cons, List.map_append] at hf hkeys ⊢
    obtain ⟨sm, h1, h2⟩ := FragsGN.append_inv (by simp) hf
    rw [encGrps_cons]
    rw [← List.append_assoc] at hkeys
    have hk1 : keysOK mc.cfg false (goOfPairs (kvs0 ++ g.items.map (·.2))) = true := by
      rw [goOfPairs_append] at hkeys
      exact keysOK_prefix _ _ _ _ hkeys
    exact RunsP.weaken (RunsP.seq (runs_dictGroup hI kvs0 g h1 hk1) (runs_dictGroups hI gs _ h2 hkeys)
        fun _ _ hp _ q => ⟨q.1, q.2.top hp.2⟩)
      (fun _ h => h) fun _ _ _ _ ⟨_, _, q1, q2⟩ => ⟨q2.1, q1.2.trans q2.2⟩

end

end Ogorek
