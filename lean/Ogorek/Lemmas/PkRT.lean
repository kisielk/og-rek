import Ogorek.Lemmas.PkCont

/-!
  CPython's unpickler on CPython's pickler: the object as a Python value (`pyOf`) and what CPython asks of it (`pyOKp`);
  strings, globals, argument tuples and the REDUCE forms of bytes / bytearray.
-/
namespace Ogorek

mutual
/-- The Python value of an object (resolved: lists, dicts and bytearrays by content). -/
def pyOf : PyObj → PyVal
  | .none => .none
  | .bool b => .bool b
  | .int i => .int i
  | .float f => .float f
  | .str s => .str s
  | .bytes s => .bytes s
  | .bytearray s => .bytearray s
  | .tuple xs => .tuple (pyOfList xs)
  | .list xs => .list (pyOfList xs)
  | .dict kvs => .dict (pyDictOf (pyOfPairs kvs))
def pyOfList : List PyObj → List PyVal
  | [] => []
  | x :: xs => pyOf x :: pyOfList xs
def pyOfPairs : List (PyObj × PyObj) → List (PyVal × PyVal)
  | [] => []
  | (k, v) :: r => (pyOf k, pyOf v) :: pyOfPairs r
end

mutual
/-- What CPython asks of the object: text is valid UTF-8, the keys of a dict are hashable and at most one of them holds
    a NaN (the two conjuncts of `keysPyOK`, on the keys as Python values); and at protocol 0 the float-text hypothesis. -/
def pyOKp (p : Nat) : PyObj → Prop
  | .none => True
  | .bool _ => True
  | .int _ => True
  | .float f => p ≥ 1 ∨ PyFloatTextOK f
  | .str s => validUtf8 s = true
  | .bytes _ => True
  | .bytearray s => s.length < 2 ^ 32
  | .tuple xs => pyOKpList p xs
  | .list xs => pyOKpList p xs
  | .dict kvs => pyOKpPairs p kvs ∧ ((pyOfPairs kvs).all fun e => pyHashable e.1) = true ∧ nanKeys (pyOfPairs kvs) ≤ 1
def pyOKpList (p : Nat) : List PyObj → Prop
  | [] => True
  | x :: xs => pyOKp p x ∧ pyOKpList p xs
def pyOKpPairs (p : Nat) : List (PyObj × PyObj) → Prop
  | [] => True
  | (k, v) :: r => pyOKp p k ∧ pyOKp p v ∧ pyOKpPairs p r
end

mutual
/-- The decidable part of `pyOKp` (everything but the protocol-0 float text). -/
def pyOKb : PyObj → Bool
  | .none => true
  | .bool _ => true
  | .int _ => true
  | .float _ => true
  | .str s => validUtf8 s
  | .bytes _ => true
  | .bytearray s => decide (s.length < 2 ^ 32)
  | .tuple xs => pyOKbList xs
  | .list xs => pyOKbList xs
  | .dict kvs => pyOKbPairs kvs && ((pyOfPairs kvs).all fun e => pyHashable e.1) && decide (nanKeys (pyOfPairs kvs) ≤ 1)
def pyOKbList : List PyObj → Bool
  | [] => true
  | x :: xs => pyOKb x && pyOKbList xs
def pyOKbPairs : List (PyObj × PyObj) → Bool
  | [] => true
  | (k, v) :: r => pyOKb k && pyOKb v && pyOKbPairs r
end

section
variable {c : ECfg} {mz : Option PKey → Bool} {p : Nat}

theorem ppushesG_find {s : PSt} {key : Option PKey} {idx : Nat} {v : PyVal} (hfind : key.bind s.find = some idx)
    (hkey : ∀ k, key = some k → pyValOf p k = v) : PPushesG c p (cpGet p idx) v s s := by
  obtain ⟨k, rfl, hf⟩ := Option.bind_eq_some_iff.mp hfind
  exact hkey k rfl ▸ ppushesG_get p hf

theorem psaveStrS_ok (s s' : PSt) (key putKey : Option PKey) (txt b : Bytes) (hv : validUtf8 txt = true)
    (hkey : ∀ k, key = some k → pyValOf p k = .str txt) (hpk : ∀ k, putKey = some k → pyValOf p k = .str txt)
    (h : saveStrS mz p s key putKey txt = some (b, s')) : PPushesG c p b (.str txt) s s' := by
  rcases saveStrS_some h with ⟨idx, hfind, rfl, rfl⟩ | ⟨b0, pb, hcs, hput, rfl⟩
  · exact ppushesG_find hfind hkey
  · exact (PPushesG.one (.str txt) (.str txt) s (parses_cpStr p txt b0 hcs) (pexec_pushStr txt hv) (fun _ _ => rfl)).putS hput hpk

theorem psaveGlobalS_ok (s s' : PSt) (key : PKey) (m n b : Bytes) (hkey : pyValOf p key = .glob m n)
    (h : saveGlobalS mz p s key m n = some (b, s')) :
    PPushesG c p b (.glob m n) s s' := by
  obtain ⟨⟨hm, hvm⟩, hn, hvn⟩ : NameOK m ∧ NameOK n := by
    obtain ⟨hmod, hb, hba, hc, he⟩ := nameOK_globals p
    cases key <;> cases hkey
    · exact ⟨hc, he⟩
    · exact ⟨hmod, hb⟩
    · exact ⟨hmod, hba⟩
  have hkey' : ∀ k, some key = some k → pyValOf p k = .glob m n := fun _ e => Option.some.inj e ▸ hkey
  have hvalid : (pyUtf8Valid false m && pyUtf8Valid false n) = true := by
    rw [pyUtf8Valid_of_valid false m hvm, pyUtf8Valid_of_valid false n hvn]; rfl
  rcases saveGlobalS_some h with ⟨idx, hfind, rfl, rfl⟩ | ⟨b1, s1, b2, s2, pb, h1, h2, hput, rfl⟩ | ⟨pb, hput, rfl⟩
  · exact ppushesG_find (key := some key) hfind hkey'
  · have hs12 := PPushesGN.append (psaveStrS_ok (c := c) s s1 none none m b1 hvm (fun _ e => nomatch e) (fun _ e => nomatch e) h1).toN
      (psaveStrS_ok (c := c) s1 s2 none none n b2 hvn (fun _ e => nomatch e) (fun _ e => nomatch e) h2).toN
    refine PPushesG.putS ?_ hput hkey'
    refine PRunsP.snoc hs12 (parses_op 0x93 .stackGlobal rfl parseArg_147) ?_
    rintro st st2 _ _ _ ⟨hj, rs, hst, hmt, hr, hk⟩
    cases PRepList.eq_of_hashable [.str m, .str n] rfl (PRepGList.toRep rs _ hr)
    refine ⟨{ st2 with stack := .glob m n :: st.stack }, ?_, rfl, hj.stable rfl (KeepsBA.refl _), _, rfl, hmt, rfl, hk⟩
    simp only [List.reverse_cons, List.reverse_nil, List.nil_append, List.cons_append] at hst
    simp [pexec, hst, hvalid]
  · exact (PPushesG.one (.glob m n) (.glob m n) s (parses_global m n hm hn) (fun st => by simp [pexec, hvalid]) (fun _ _ => rfl)).putS
      hput hkey'

theorem ppushesG_reduce {g ab : Bytes} {m n : Bytes} {xs : List PyVal} {res : PyVal} {s s1 s2 : PSt}
    (hg : PPushesG c p g (.glob m n) s s1) (ha : PPushesG c p ab (.tuple xs) s1 s2) (hx : pyHashableList xs = true)
    (hcall : ∀ st : PState, PProtoOK c st →
      ∃ t rv, pyCallGlob st m n xs = .ok ({ st with heap := st.heap ++ t }, rv) ∧ ∀ n', PRepG n' (st.heap ++ t) rv res) :
    PPushesG c p (g ++ ab ++ [82]) res s s2 := by
  refine PRunsP.snoc (PRunsP.seq hg ha (fun _ _ _ _ q => q.1)) (parses_op 82 .reduce rfl parseArg_82) ?_
  rintro st st2 hpo _ _ ⟨st1, _, ⟨_, r1, hs1, hm1, hr1, hk1⟩, hj2, r, hs2, hm2, hr, hk⟩
  simp only [PRepG] at hr1 hr
  obtain ⟨rs, rfl, hrl⟩ := hr
  cases PRepList.eq_of_hashable xs hx (PRepGList.toRep rs xs hrl)
  have hst : st2.stack = .tuple xs :: .glob m n :: st.stack := by rw [hs2, hs1, hr1]
  obtain ⟨t, rv, hc, hrv⟩ := hcall st2 hpo
  refine ⟨{ st2 with heap := st2.heap ++ t, stack := rv :: st.stack }, ?_, rfl, hj2.stable rfl (KeepsBA.append _ _),
    rv, rfl, by rw [← hm1]; exact hm2, hrv _, (hk1.trans hk).trans (PKeepsH.of_append (st := st2) rfl)⟩
  simp [pexec, hst, pyArgs, pyCall, hc, bind, Except.bind, pure, Except.pure]

theorem pprotoOK_mod {st : PState} (h : PProtoOK (ecfg p) st) : pyExecModule st.proto = pybuiltinModuleE p := h

theorem ppushesG_emptyTuple (p : Nat) (s : PSt) : PPushesG c p (emptyTupleBytes p) (.tuple []) s s := by
  unfold emptyTupleBytes
  split
  · exact PPushesG.one (.tuple []) _ s (parses_op 41 .emptyTuple rfl parseArg_41) (fun _ => rfl)
      (fun _ _ => ⟨[], rfl, trivial⟩)
  · exact ppushesG_tupleMark [] [] (PPushesGN.nil p s)

/-- The closing opcode comes as an equation (`hclose`): each caller has it written its own way. -/
theorem ppushesG_tuple (xs : List PyVal) (h1 : 1 ≤ xs.length) (short : Prop) [Decidable short] (h3 : short → xs.length ≤ 3)
    {items close pt : Bytes} {s s1 s2 : PSt}
    (hclose : close = if short then [if xs.length = 1 then 0x85 else if xs.length = 2 then 0x86 else 0x87] else [116])
    (hi : PPushesGN c p items xs s s1) (hpt : putS mz p s1 none = some (pt, s2)) :
    PPushesG c p ((if short then [] else [40]) ++ items ++ close ++ pt) (.tuple xs) s s2 := by
  subst hclose
  by_cases hs : short
  · simp only [hs, if_true, List.nil_append]
    exact (ppushesG_tupleN xs h1 (h3 hs) items hi).putS hpt fun _ e => nomatch e
  · simp only [hs, if_false]
    exact (ppushesG_tupleMark xs items hi).putS hpt fun _ e => nomatch e

end

section
variable {p : Nat} {mz : Option PKey → Bool}

theorem psaveBytesS_ok (s s' : PSt) (key : Option PKey) (d b : Bytes)
    (hkey : ∀ k, key = some k → pyValOf p k = .bytes d) (h : saveBytesS mz p s key d = some (b, s')) :
    PPushesG (ecfg p) p b (.bytes d) s s' := by
  rcases saveBytesS_some h with ⟨idx, hfind, rfl, rfl⟩ | ⟨b0, pb, hcb, hput, rfl⟩ | ⟨g, s1, pb, rfl, hg, hput, rfl⟩ |
    ⟨g, s1, b1, s2, b2, s3, pt, s4, pb, hg, h1, h2, hpt, hput, rfl⟩
  · exact ppushesG_find hfind hkey
  · exact (PPushesG.one (.bytes d) (.bytes d) s (parses_cpBytes p d b0 hcb) (fun _ => rfl) (fun _ _ => rfl)).putS hput hkey
  · have hgv := psaveGlobalS_ok (c := ecfg p) s s1 .gBytes (pybuiltinModuleE p) (sb "bytes") g rfl hg
    refine (ppushesG_reduce (res := .bytes []) hgv (ppushesG_emptyTuple p s1) rfl fun st hpo => ?_).putS hput hkey
    refine ⟨[], .bytes [], ?_, fun _ => rfl⟩
    rw [← pprotoOK_mod hpo]
    simp [pyCallGlob, pyExecModule_ne_codecs]
  · have hgv := psaveGlobalS_ok (c := ecfg p) s s1 .gEncode (sb "_codecs") (sb "encode") g rfl hg
    have hitems := PPushesGN.append
      (psaveStrS_ok (c := ecfg p) s1 s2 none none (latin1ToUtf8 d) b1 (validUtf8_latin1 d)
        (fun _ e => nomatch e) (fun _ e => nomatch e) h1).toN
      (psaveStrS_ok (c := ecfg p) s2 s3 (some .sLatin1) (some .sLatin1) (sb "latin1") b2 (by rw [sb_latin1]; decide)
        (fun _ e => Option.some.inj e ▸ rfl) (fun _ e => Option.some.inj e ▸ rfl) h2).toN
    have hargs := ppushesG_tuple _ (by simp) (p ≥ 2) (fun _ => by simp) (close := [if p ≥ 2 then 0x86 else 116])
      (by by_cases h2' : p ≥ 2 <;> simp [h2']) hitems hpt
    refine (ppushesG_reduce (res := .bytes d) hgv hargs rfl fun st _ => ?_).putS hput hkey
    exact ⟨[], .bytes d, by simp [pyCallGlob, pyCodecsEncode, pyTextOf, isLatin1Name, pyLatin1Encode_latin1], fun _ => rfl⟩

theorem psaveBytearrayS_ok (s s' : PSt) (key : Option PKey) (d b : Bytes) (hl : d.length < 2 ^ 32)
    (hkey : ∀ k, key = some k → pyValOf p k = .bytearray d) (h : saveBytearrayS mz p s key d = some (b, s')) :
    PPushesG (ecfg p) p b (.bytearray d) s s' := by
  rcases saveBytearrayS_some h with ⟨idx, hfind, rfl, rfl⟩ | ⟨b0, pb, hcb, hput, rfl⟩ | ⟨g, s1, hg, h⟩
  · exact ppushesG_find hfind hkey
  · refine PPushesG.putS (PRunsP.one (parses_cpBytearray p d b0 hl hcb) fun st _ hj => ?_) hput hkey
    refine ⟨ppush { st with heap := st.heap ++ [.bytearray d] } (.obj st.heap.length), by simp [pexec, palloc], rfl,
      hj.stable rfl (KeepsBA.append _ _), .obj st.heap.length, rfl, rfl, ?_, PKeepsH.of_append (t := [.bytearray d]) rfl⟩
    simp only [PRepG]
    exact ⟨st.heap.length, rfl, by simp [ppush]⟩
  have hgv := psaveGlobalS_ok (c := ecfg p) s s1 .gBytearray (pybuiltinModuleE p) (sb "bytearray") g rfl hg
  have hcall : ∀ (args : List PyVal), pyBytearrayOf args = .ok d → ∀ (st : PState), PProtoOK (ecfg p) st →
      ∃ t rv, pyCallGlob st (pybuiltinModuleE p) (sb "bytearray") args = .ok ({ st with heap := st.heap ++ t }, rv) ∧
        ∀ n', PRepG n' (st.heap ++ t) rv (.bytearray d) := by
    intro args hba st hpo
    refine ⟨[.bytearray d], .obj st.heap.length, ?_, fun _ => ?_⟩
    · rw [← pprotoOK_mod hpo]
      simp [pyCallGlob, pyExecModule_ne_codecs, bytearray_ne_bytes, hba, palloc]
    · simp only [PRepG]
      exact ⟨st.heap.length, rfl, by simp⟩
  rcases h with ⟨pb, rfl, hput, rfl⟩ | ⟨bb, s2, pt, s3, pb, hb, hpt, hput, rfl⟩
  · exact (ppushesG_reduce hgv (ppushesG_emptyTuple p s1) rfl (hcall [] rfl)).putS hput hkey
  · have hargs := ppushesG_tuple _ (by simp) (p ≥ 2) (fun _ => by simp) (close := [if p ≥ 2 then 0x85 else 116])
      (by by_cases h2' : p ≥ 2 <;> simp [h2']) (psaveBytesS_ok s1 s2 none d bb (fun _ e => nomatch e) hb).toN hpt
    exact (ppushesG_reduce hgv hargs rfl (hcall [.bytes d] rfl)).putS hput hkey

end

end Ogorek
