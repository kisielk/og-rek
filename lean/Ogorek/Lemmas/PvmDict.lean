import Ogorek.Lemmas.PvmForms

/-! The containers on the Python machine: `MARK k1 v1 … DICT` builds the dict the type table names, `MARK x1 … LIST` the list. -/
namespace Ogorek

def nanKeys (es : List (PyVal × PyVal)) : Nat := (es.filter fun e => pyHasNaN e.1).length

/-- Keys CPython accepts, and for which "identical or equal" is just "equal": all hashable, at most one holding a NaN. -/
def keysPyOK (kvs : List (PyVal × PyVal)) : Bool := kvs.all (fun e => pyHashable e.1) && decide (nanKeys kvs ≤ 1)

theorem nanKeys_cons (e : PyVal × PyVal) (es : List (PyVal × PyVal)) :
    nanKeys (e :: es) = (if pyHasNaN e.1 then 1 else 0) + nanKeys es := by
  unfold nanKeys
  by_cases h : pyHasNaN e.1 = true
  · simp [h]; omega
  · simp [h]

theorem nanKeys_set (es : List (PyVal × PyVal)) (k v : PyVal) :
    nanKeys (pyDictSet es k v) ≤ nanKeys es + (if pyHasNaN k then 1 else 0) := by
  induction es with
  | nil =>
    have : pyDictSet [] k v = [(k, v)] := rfl
    rw [this, nanKeys_cons]; simp [nanKeys]
  | cons e es ih =>
    obtain ⟨a, b⟩ := e
    unfold pyDictSet
    split
    · simp only [nanKeys_cons]; omega
    · simp only [nanKeys_cons] at ih ⊢; omega

theorem any_nan_false_of_zero (es : List (PyVal × PyVal)) (h : nanKeys es = 0) : es.any (fun e => pyHasNaN e.1) = false := by
  induction es with
  | nil => rfl
  | cons e es ih =>
    rw [nanKeys_cons] at h
    by_cases hn : pyHasNaN e.1 = true
    · simp [hn] at h
    · simp only [Bool.not_eq_true] at hn
      simp [hn] at h
      simp [List.any_cons, hn, ih h]

theorem PRepEntries.any_nan {h : List PObj} : {es acc : List (PyVal × PyVal)} → PRepEntries h es acc →
    es.any (fun e => pyHasNaN e.1) = acc.any (fun e => pyHasNaN e.1)
  | [], [], _ => rfl
  | [], _ :: _, hr => by simp [PRepEntries] at hr
  | _ :: _, [], hr => by simp [PRepEntries] at hr
  | (rk, rv) :: es, (k, v) :: acc, hr => by
    simp only [PRepEntries] at hr
    simp [List.any_cons, hr.1, PRepEntries.any_nan hr.2.2]

theorem pyDictSet_rep {h : List PObj} (k rv v : PyVal) (hv : PRep h rv v) : {es acc : List (PyVal × PyVal)} → PRepEntries h es acc →
    PRepEntries h (pyDictSet es k rv) (pyDictSet acc k v)
  | [], [], _ => by simp [pyDictSet, PRepEntries, hv]
  | [], _ :: _, hr => by simp [PRepEntries] at hr
  | _ :: _, [], hr => by simp [PRepEntries] at hr
  | (a, b) :: es, (a', b') :: acc, hr => by
    simp only [PRepEntries] at hr
    obtain ⟨rfl, hb, hrest⟩ := hr
    unfold pyDictSet
    split
    · simp only [PRepEntries]; exact ⟨trivial, hv, hrest⟩
    · simp only [PRepEntries]; exact ⟨trivial, hb, pyDictSet_rep k rv v hv hrest⟩

theorem pyAssignAll_rep {h : List PObj} : (kvs : List (PyVal × PyVal)) → (rs : List PyVal) → (es acc : List (PyVal × PyVal)) →
    PRepList h rs (flatP kvs) → PRepEntries h es acc → (kvs.all fun e => pyHashable e.1) = true → nanKeys acc + nanKeys kvs ≤ 1 →
    ∃ es', pyAssignAll es rs = .ok es' ∧ PRepEntries h es' (kvs.foldl (fun a e => pyDictSet a e.1 e.2) acc)
  | [], rs, es, acc, hl, he, _, _ => by
    cases rs with
    | nil => exact ⟨es, rfl, by simpa using he⟩
    | cons _ _ => simp [flatP, PRepList] at hl
  | (k, v) :: kvs, rs, es, acc, hl, he, hh, hn => by
    match rs, hl with
    | rk :: rv :: rs', hl =>
      simp only [flatP, PRepList] at hl
      obtain ⟨hk, hv, hrest⟩ := hl
      simp only [List.all_cons, Bool.and_eq_true] at hh
      have ek : rk = k := PRep.eq_of_hashable k hh.1 hk
      subst ek
      rw [nanKeys_cons] at hn
      have hguard : (pyHasNaN rk && es.any (fun e => pyHasNaN e.1)) = false := by
        by_cases hnan : pyHasNaN rk = true
        · simp only [hnan, if_true] at hn
          have : nanKeys acc = 0 := by omega
          rw [he.any_nan, any_nan_false_of_zero acc this]; simp
        · simp only [Bool.not_eq_true] at hnan; simp [hnan]
      have hass : pyAssign es rk rv = .ok (pyDictSet es rk rv) := by
        simp [pyAssign, hh.1, hguard]
      have hn' : nanKeys (pyDictSet acc rk v) + nanKeys kvs ≤ 1 := by
        have := nanKeys_set acc rk v
        simp only [] at hn
        omega
      obtain ⟨es', e1, e2⟩ := pyAssignAll_rep kvs rs' (pyDictSet es rk rv) (pyDictSet acc rk v) hrest (pyDictSet_rep rk rv v hv he) hh.2 hn'
      exact ⟨es', by simp [pyAssignAll, hass, e1], by simpa using e2⟩
    | [], hl => simp [flatP, PRepList] at hl
    | [_], hl => simp [flatP, PRepList] at hl

section forms
variable {c : ECfg}

theorem ppushes_listform (xs : List PyVal) (n : Nat) (hn : n = 0 → xs = []) (itemsOut : Out) {l : Nat}
    (he : (if c.proto ≥ 1 ∧ n = 0 then emit [93] else emit [40] +> itemsOut +> emit [108]).err = none)
    (hi : itemsOut.err = none → PPushesN c (flat itemsOut) l (fun h rs => PRepList h rs xs)) :
    PPushes c (flat (if c.proto ≥ 1 ∧ n = 0 then emit [93] else emit [40] +> itemsOut +> emit [108]))
      (fun h r => PRep h r (.list xs)) := by
  by_cases h : c.proto ≥ 1 ∧ n = 0
  · cases hn h.2
    rw [if_pos h, flat_emit]
    refine PRuns.one (parses_op 93 .emptyList rfl parseArg_93) fun st _ => ?_
    exact ⟨ppush { st with heap := st.heap ++ [.list []] } (.obj st.heap.length), rfl,
      ⟨rfl, rfl, rfl, [.list []], rfl⟩, .obj st.heap.length, rfl, st.heap.length, [], rfl, List.getElem?_concat_length, trivial⟩
  · rw [if_neg h] at he ⊢
    obtain ⟨h1, _⟩ := seq_err_none he
    rw [flat_seq _ _ h1, flat_seq _ _ rfl, flat_emit, flat_emit]
    refine PRuns.marked (hi (seq_err_none h1).2) (parses_op 108 .list rfl parseArg_108) ?_
    intro st st1 rs _ f1 hs _ hPL
    have hme : st1.metas = st.stack :: st.metas := f1.metas
    obtain ⟨t, ht⟩ := f1.heap
    refine ⟨{ st1 with stack := .obj st1.heap.length :: st.stack, metas := st.metas, heap := st1.heap ++ [.list rs] }, ?_,
      f1.memo, f1.proto, rfl, ⟨t ++ [.list rs], by rw [ht]; exact (List.append_assoc ..)⟩, .obj st1.heap.length, rfl,
      st1.heap.length, rs, rfl, List.getElem?_concat_length, PRepList.mono _ _ rs _ hPL⟩
    simp [pexec, popMark, hme, hs, palloc, ppush, bind, Except.bind, pure, Except.pure]

theorem ppushes_dictform (kvs : List (PyVal × PyVal)) (n : Nat) (hn : n = 0 → kvs = []) (pairsOut : Out) {l : Nat} (hk : keysPyOK kvs = true)
    (he : (if c.proto ≥ 1 ∧ n = 0 then emit [125] else emit [40] +> pairsOut +> emit [100]).err = none)
    (hi : pairsOut.err = none → PPushesN c (flat pairsOut) l (fun h rs => PRepList h rs (flatP kvs))) :
    PPushes c (flat (if c.proto ≥ 1 ∧ n = 0 then emit [125] else emit [40] +> pairsOut +> emit [100]))
      (fun h r => PRep h r (.dict (pyDictOf kvs))) := by
  simp only [keysPyOK, Bool.and_eq_true, decide_eq_true_eq] at hk
  by_cases h : c.proto ≥ 1 ∧ n = 0
  · cases hn h.2
    rw [if_pos h, flat_emit]
    refine PRuns.one (parses_op 125 .emptyDict rfl parseArg_125) fun st _ => ?_
    exact ⟨ppush { st with heap := st.heap ++ [.dict []] } (.obj st.heap.length), rfl,
      ⟨rfl, rfl, rfl, [.dict []], rfl⟩, .obj st.heap.length, rfl, st.heap.length, [], rfl, List.getElem?_concat_length, trivial⟩
  · rw [if_neg h] at he ⊢
    obtain ⟨h1, _⟩ := seq_err_none he
    rw [flat_seq _ _ h1, flat_seq _ _ rfl, flat_emit, flat_emit]
    refine PRuns.marked (hi (seq_err_none h1).2) (parses_op 100 .dict rfl parseArg_100) ?_
    intro st st1 rs _ f1 hs _ hPL
    have hme : st1.metas = st.stack :: st.metas := f1.metas
    obtain ⟨t, ht⟩ := f1.heap
    obtain ⟨es, hass, hrep⟩ := pyAssignAll_rep kvs rs [] [] hPL trivial hk.1 (Nat.le_trans (Nat.le_of_eq (Nat.zero_add _)) hk.2)
    refine ⟨{ st1 with stack := .obj st1.heap.length :: st.stack, metas := st.metas, heap := st1.heap ++ [.dict es] }, ?_,
      f1.memo, f1.proto, rfl, ⟨t ++ [.dict es], by rw [ht]; exact (List.append_assoc ..)⟩, .obj st1.heap.length, rfl,
      st1.heap.length, es, rfl, List.getElem?_concat_length, PRepEntries.mono _ _ es _ hrep⟩
    simp [pexec, popMark, hme, hs, hass, palloc, ppush, bind, Except.bind, pure, Except.pure]

end forms

end Ogorek
