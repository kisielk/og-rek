import Ogorek.WF
import Ogorek.Lemmas.Reader
import Ogorek.Lemmas.Num

/-!
  Well-formedness (`wfVal`, `wfObj`, `Inv` of Ogorek/WF.lean): monotone in the heap length, kept by the
  state updates `exec` is made of (push, allocation, `heapSet`), and what the assignments put into a table.
-/
namespace Ogorek

@[simp] theorem wfVal_list (c : Cfg) (u : Bool) (hl : Nat) (xs : List GoVal) :
    wfVal c u hl (.list xs) = xs.all (wfVal c u hl) := by
  rw [wfVal]; simp [List.all_eq]
@[simp] theorem wfVal_tuple (c : Cfg) (u : Bool) (hl : Nat) (xs : List GoVal) :
    wfVal c u hl (.tuple xs) = xs.all (wfVal c u hl) := by
  rw [wfVal]; simp [List.all_eq]
@[simp] theorem wfVal_call (c : Cfg) (u : Bool) (hl : Nat) (m n : Bytes) (xs : List GoVal) :
    wfVal c u hl (.call m n xs) = xs.all (wfVal c u hl) := by
  rw [wfVal]; simp [List.all_eq]
@[simp] theorem wfVal_ref (c : Cfg) (u : Bool) (hl : Nat) (p : GoVal) :
    wfVal c u hl (.ref p) = wfVal c u hl p := by
  rw [wfVal]
@[simp] theorem wfVal_href (c : Cfg) (u : Bool) (hl id : Nat) :
    wfVal c u hl (.href id) = decide (id < hl) := by
  rw [wfVal]

theorem wfVal_mono (c : Cfg) (u : Bool) {hl hl' : Nat} (h : hl ≤ hl') :
    ∀ v, wfVal c u hl v = true → wfVal c u hl' v = true
  | .list xs | .tuple xs | .call _ _ xs => by
    simp only [wfVal_list, wfVal_tuple, wfVal_call, List.all_eq_true]
    intro hx x hm
    exact wfVal_mono c u h x (hx x hm)
  | .ref p => by
    simp only [wfVal_ref]
    exact wfVal_mono c u h p
  | .href id => by
    simp only [wfVal_href, decide_eq_true_eq]
    omega
  | .none | .bool _ | .float _ | .str _ | .bytes _ | .bytearray _ | .cls _ _ | .big _ _
  | .int _ | .bytestr _ | .user _ | .mark | .uint _ | .complex _ _ | .map _ | .dict _ | .cycle | .nil => by
    simp [wfVal]
termination_by v => sizeOf v
decreasing_by
  all_goals simp_wf
  all_goals (try have := List.sizeOf_lt_of_mem hm)
  all_goals omega


theorem wfItem_mono (c : Cfg) (u : Bool) {hl hl' : Nat} (h : hl ≤ hl') (v : GoVal)
    (hv : wfItem c u hl v = true) : wfItem c u hl' v = true := by
  unfold wfItem at *
  simp only [Bool.or_eq_true] at *
  rcases hv with hv | hv
  · exact Or.inl hv
  · exact Or.inr (wfVal_mono c u h v hv)

theorem wfItem_of_wfVal {c : Cfg} {u : Bool} {hl : Nat} {v : GoVal} (h : wfVal c u hl v = true) :
    wfItem c u hl v = true := by
  simp [wfItem, h]

theorem wfVal_of_wfItem {c : Cfg} {u : Bool} {hl : Nat} {v : GoVal} (h : wfItem c u hl v = true)
    (hm : isMark v = false) : wfVal c u hl v = true := by
  simpa [wfItem, hm] using h

theorem wfObj_mono (mc : MCfg) (u : Bool) {hl hl' : Nat} (h : hl ≤ hl') (o : HObj)
    (ho : wfObj mc u hl o = true) : wfObj mc u hl' o = true := by
  unfold wfObj at *
  simp only [Bool.and_eq_true, List.all_eq_true] at *
  refine ⟨⟨ho.1.1, ?_⟩, ?_⟩
  · intro kv hkv
    exact ⟨wfVal_mono _ _ h _ (ho.1.2 kv hkv).1, wfVal_mono _ _ h _ (ho.1.2 kv hkv).2⟩
  · intro x hx
    exact wfVal_mono _ _ h _ (ho.2 x hx)

theorem Inv.withStack {mc : MCfg} {u : Bool} {st : DState} (hinv : Inv mc u st) (s : List GoVal)
    (hs : ∀ v ∈ s, wfItem mc.cfg u st.heap.length v = true) : Inv mc u { st with stack := s } :=
  ⟨hs, hinv.memo, hinv.heap, hinv.calls⟩

theorem Inv.push {mc : MCfg} {u : Bool} {st : DState} (hinv : Inv mc u st) (v : GoVal)
    (hv : wfItem mc.cfg u st.heap.length v = true) : Inv mc u (push st v) := by
  unfold Ogorek.push
  apply hinv.withStack
  intro x hx
  simp at hx
  rcases hx with rfl | hx
  · exact hv
  · exact hinv.stack x hx

theorem Inv.alloc {mc : MCfg} {u : Bool} {st : DState} (hinv : Inv mc u st) (o : HObj)
    (ho : wfObj mc u (st.heap.length + 1) o = true) :
    Inv mc u (allocObj st o).1 ∧ wfVal mc.cfg u (allocObj st o).1.heap.length (allocObj st o).2 = true ∧
      (allocObj st o).1.heap.length = st.heap.length + 1 ∧ (allocObj st o).1.stack = st.stack := by
  have hl : (allocObj st o).1.heap.length = st.heap.length + 1 := by simp [allocObj]
  have hle : st.heap.length ≤ (allocObj st o).1.heap.length := by omega
  refine ⟨⟨?_, ?_, ?_, ?_⟩, ?_, hl, rfl⟩
  · intro v hv; exact wfItem_mono _ _ hle v (hinv.stack v hv)
  · intro kv hkv; exact wfVal_mono _ _ hle _ (hinv.memo kv hkv)
  · intro o' ho'
    have : o' ∈ st.heap ∨ o' = o := by simpa [allocObj] using ho'
    rcases this with ho' | rfl
    · exact wfObj_mono _ _ hle o' (hinv.heap o' ho')
    · rw [hl]; exact ho
  · intro r hr; exact wfVal_mono _ _ hle _ (hinv.calls r hr)
  · simp [allocObj]

theorem splitAtMark_spec : ∀ (s above below : List GoVal), splitAtMark s = some (above, below) →
    (∀ v ∈ above, isMark v = false ∧ v ∈ s) ∧ (∀ v ∈ below, v ∈ s)
  | [], above, below, h => by simp [splitAtMark] at h
  | v :: s, above, below, h => by
    unfold splitAtMark at h
    split at h
    · simp at h
      obtain ⟨rfl, rfl⟩ := h
      simp
      intro x hx; exact Or.inr hx
    · rename_i hm
      split at h
      · rename_i a b hs
        simp at h
        obtain ⟨rfl, rfl⟩ := h
        obtain ⟨h1, h2⟩ := splitAtMark_spec s a b hs
        constructor
        · intro x hx
          simp at hx
          rcases hx with rfl | hx
          · exact ⟨by simpa using hm, by simp⟩
          · exact ⟨(h1 x hx).1, by simp [(h1 x hx).2]⟩
        · intro x hx; simp [h2 x hx]
      · simp at h


theorem mem_filter_snoc {p : α → Bool} {es : List α} {e x : α} (h : x ∈ es.filter p ++ [e]) : x ∈ es ∨ x = e := by
  rcases List.mem_append.mp h with h | h
  · exact .inl (List.mem_filter.mp h).1
  · exact .inr (List.mem_singleton.mp h)

theorem tryAssign_mem {kind : HKind} {es es' : Entries} {k v : GoVal}
    (h : tryAssign kind es k v = some es') {kv : GoVal × GoVal} (hkv : kv ∈ es') :
    kv ∈ es ∨ kv = (k, v) := by
  unfold tryAssign at h
  split at h <;> split at h <;> cases h
  · exact mem_filter_snoc hkv
  · exact mem_filter_snoc hkv

theorem assignAll_mem (kind : HKind) : ∀ (items : List GoVal) (es es' : Entries),
    assignAll kind es items = some es' → ∀ kv ∈ es', kv ∈ es ∨ (kv.1 ∈ items ∧ kv.2 ∈ items)
  | [], es, es', h, kv, hkv => by simp [assignAll] at h; subst h; exact Or.inl hkv
  | [_], es, es', h, kv, hkv => by simp [assignAll] at h; subst h; exact Or.inl hkv
  | k :: v :: rest, es, es', h, kv, hkv => by
    unfold assignAll at h
    split at h
    · rename_i es1 h1
      rcases assignAll_mem kind rest es1 es' h kv hkv with h2 | h2
      · rcases tryAssign_mem h1 h2 with h3 | h3
        · exact Or.inl h3
        · subst h3; exact Or.inr ⟨by simp, by simp⟩
      · exact Or.inr ⟨by simp [h2.1], by simp [h2.2]⟩
    · simp at h

theorem Inv.heapSet {mc : MCfg} {u : Bool} {st : DState} (hinv : Inv mc u st) (id : Nat) (o : HObj)
    (ho : wfObj mc u st.heap.length o = true) : Inv mc u (heapSet st id o) := by
  have hl : (Ogorek.heapSet st id o).heap.length = st.heap.length := by simp [Ogorek.heapSet]
  refine ⟨?_, ?_, ?_, ?_⟩
  · intro v hv; rw [hl]; exact hinv.stack v hv
  · intro kv hkv; rw [hl]; exact hinv.memo kv hkv
  · intro o' ho'
    rw [hl]
    have : o' ∈ st.heap.set id o := ho'
    rcases List.mem_or_eq_of_mem_set this with h | rfl
    · exact hinv.heap o' h
    · exact ho
  · intro r hr; rw [hl]; exact hinv.calls r hr

theorem heap_get_wf {mc : MCfg} {u : Bool} {st : DState} (hinv : Inv mc u st) {id : Nat} {o : HObj}
    (h : st.heap[id]? = some o) : wfObj mc u st.heap.length o = true :=
  hinv.heap o (List.mem_of_getElem? h)

end Ogorek
