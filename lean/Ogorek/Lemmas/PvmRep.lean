import Ogorek.Lemmas.PvmRun
import Ogorek.Lemmas.RoundTrip

/-!
  Encode → CPython: what the model of CPython's unpickler makes of the encoder's output (C01).

  `PRep heap r pv` — the machine value `r` (with its `obj`s into `heap`) *is* the resolved Python value `pv`:
  immutable values literally, lists / dicts / bytearrays as heap objects holding (representations of) their
  content.  `table c v` is the documented Go → Python type table; `pt_val` (in `Props/C01Pvm.lean`) shows that
  running `enc v` pushes exactly one value that is `tableP c v`: `table c v` but for the id of a protocol-0
  persistent reference, which PERSID carries as text.
-/
namespace Ogorek

mutual
def PRep (heap : List PObj) (r : PyVal) : PyVal → Prop
  | .none => r = .none
  | .bool b => r = .bool b
  | .int i => r = .int i
  | .float f => r = .float f
  | .str s => r = .str s
  | .str2 s => r = .str2 s
  | .bytes s => r = .bytes s
  | .glob m n => r = .glob m n
  | .tuple xs => ∃ rs, r = .tuple rs ∧ PRepList heap rs xs
  | .call f xs => ∃ g rs, r = .call g rs ∧ PRep heap g f ∧ PRepList heap rs xs
  | .pers p => ∃ q, r = .pers q ∧ PRep heap q p
  | .list xs => ∃ id rs, r = .obj id ∧ heap[id]? = some (.list rs) ∧ PRepList heap rs xs
  | .dict kvs => ∃ id es, r = .obj id ∧ heap[id]? = some (.dict es) ∧ PRepEntries heap es kvs
  | .bytearray s => ∃ id, r = .obj id ∧ heap[id]? = some (.bytearray s)
  | .obj _ | .cycle => False
def PRepList (heap : List PObj) : List PyVal → List PyVal → Prop
  | [], [] => True
  | r :: rs, x :: xs => PRep heap r x ∧ PRepList heap rs xs
  | _, _ => False
def PRepEntries (heap : List PObj) : List (PyVal × PyVal) → List (PyVal × PyVal) → Prop
  | [], [] => True
  | (rk, rv) :: es, (k, v) :: kvs => rk = k ∧ PRep heap rv v ∧ PRepEntries heap es kvs
  | _, _ => False
end

mutual
theorem PRep.mono (h t : List PObj) (r : PyVal) : (v : PyVal) → PRep h r v → PRep (h ++ t) r v
  | .none | .bool _ | .int _ | .float _ | .str _ | .str2 _ | .bytes _ | .glob _ _ | .obj _ | .cycle => id
  | .tuple xs => fun ⟨rs, e, hl⟩ => ⟨rs, e, PRepList.mono h t rs xs hl⟩
  | .call f xs => fun ⟨g, rs, e, hf, hl⟩ => ⟨g, rs, e, PRep.mono h t g f hf, PRepList.mono h t rs xs hl⟩
  | .pers p => fun ⟨q, e, hp⟩ => ⟨q, e, PRep.mono h t q p hp⟩
  | .list xs => fun ⟨id, rs, e, hg, hl⟩ => ⟨id, rs, e, getElem?_append_of_some t hg, PRepList.mono h t rs xs hl⟩
  | .dict kvs => fun ⟨id, es, e, hg, hp⟩ => ⟨id, es, e, getElem?_append_of_some t hg, PRepEntries.mono h t es kvs hp⟩
  | .bytearray s => fun ⟨id, e, hg⟩ => ⟨id, e, getElem?_append_of_some t hg⟩
theorem PRepList.mono (h t : List PObj) : (rs xs : List PyVal) → PRepList h rs xs → PRepList (h ++ t) rs xs
  | [], [], _ => trivial
  | [], _ :: _, hr | _ :: _, [], hr => hr
  | r :: rs, x :: xs, ⟨h1, h2⟩ => ⟨PRep.mono h t r x h1, PRepList.mono h t rs xs h2⟩
theorem PRepEntries.mono (h t : List PObj) : (es kvs : List (PyVal × PyVal)) → PRepEntries h es kvs → PRepEntries (h ++ t) es kvs
  | [], [], _ => trivial
  | [], _ :: _, hr | _ :: _, [], hr => hr
  | (rk, rv) :: es, (k, v) :: kvs, ⟨h1, h2, h3⟩ => ⟨h1, PRep.mono h t rv v h2, PRepEntries.mono h t es kvs h3⟩
end

theorem PRepList.length {h : List PObj} : {rs xs : List PyVal} → PRepList h rs xs → rs.length = xs.length
  | [], [], _ => rfl
  | [], _ :: _, hr | _ :: _, [], hr => hr.elim
  | _ :: rs, _ :: xs, ⟨_, h2⟩ => congrArg (· + 1) (PRepList.length h2)

mutual
theorem PRep.eq_of_hashable {h : List PObj} {r : PyVal} : (v : PyVal) → pyHashable v = true → PRep h r v → r = v
  | .none, _, hr | .bool _, _, hr | .int _, _, hr | .float _, _, hr | .str _, _, hr | .str2 _, _, hr | .bytes _, _, hr
  | .glob _ _, _, hr => hr
  | .obj _, hh, _ | .cycle, hh, _ | .list _, hh, _ | .dict _, hh, _ | .bytearray _, hh, _ => by cases hh
  | .tuple xs, hh, ⟨rs, e, hl⟩ => e.trans (congrArg PyVal.tuple (PRepList.eq_of_hashable xs hh hl))
  | .call f xs, hh, ⟨g, rs, e, hf, hl⟩ =>
    have hh := (Bool.and_eq_true _ _).mp hh
    e.trans (congr (congrArg PyVal.call (PRep.eq_of_hashable f hh.1 hf)) (PRepList.eq_of_hashable xs hh.2 hl))
  | .pers p, hh, ⟨q, e, hp⟩ => e.trans (congrArg PyVal.pers (PRep.eq_of_hashable p hh hp))
theorem PRepList.eq_of_hashable {h : List PObj} : {rs : List PyVal} → (xs : List PyVal) → pyHashableList xs = true → PRepList h rs xs → rs = xs
  | [], [], _, _ => rfl
  | [], _ :: _, _, hr | _ :: _, [], _, hr => hr.elim
  | r :: rs, x :: xs, hh, ⟨h1, h2⟩ =>
    have hh := (Bool.and_eq_true _ _).mp hh
    congr (congrArg List.cons (PRep.eq_of_hashable x hh.1 h1)) (PRepList.eq_of_hashable xs hh.2 h2)
end

/-- A Go `string`: Python unicode when StrictUnicode is on or from protocol 3, else a Python-2 byte str. -/
def pyStrOf (c : ECfg) (s : Bytes) : PyVal := if c.su ∨ c.proto ≥ 3 then .str s else .str2 s

def pyDictOf (kvs : List (PyVal × PyVal)) : List (PyVal × PyVal) := kvs.foldl (fun es e => pyDictSet es e.1 e.2) []

mutual
/-- doc.go's Go → Python table (`nil` and `None{}` are None; every integer type is int; float32/64 are float;
    `string` by mode; ByteString is a py2 str; Bytes is bytes; []byte is bytearray; slices are lists; Tuple is
    tuple; builtin maps and Dict are dicts; Class is a global; Call is a call of a global; Ref is a persistent
    reference; a pointer to the application struct `UserObj{N}` is the dict of its fields).  `complex`, the stack
    marker, `href` and `cycle` have no row: the `.none` there is a filler, and `pyWF` excludes them. -/
def table (c : ECfg) : GoVal → PyVal
  | .nil => .none
  | .none => .none
  | .bool b => .bool b
  | .int i => .int i
  | .uint u => .int u
  | .big _ i => .int i
  | .float f => .float f
  | .str s => pyStrOf c s
  | .bytestr s => .str2 s
  | .bytes s => .bytes s
  | .bytearray s => .bytearray s
  | .list xs => .list (tableList c xs)
  | .tuple xs => .tuple (tableList c xs)
  | .map kvs => .dict (pyDictOf (tablePairs c kvs))
  | .dict kvs => .dict (pyDictOf (tablePairs c kvs))
  | .cls m n => .glob m n
  | .call m n args => .call (.glob m n) (tableList c args)
  | .ref pid => .pers (table c pid)
  | .user n => .dict [(pyStrOf c (sb "N"), .int n)]
  | .complex _ _ => .none
  | .mark => .none
  | .href _ => .none
  | .cycle => .none
def tableList (c : ECfg) : List GoVal → List PyVal
  | [] => []
  | x :: xs => table c x :: tableList c xs
def tablePairs (c : ECfg) : List (GoVal × GoVal) → List (PyVal × PyVal)
  | [] => []
  | (k, v) :: r => (table c k, table c v) :: tablePairs c r
end

def flatP : List (PyVal × PyVal) → List PyVal
  | [] => []
  | (k, v) :: r => k :: v :: flatP r

end Ogorek
