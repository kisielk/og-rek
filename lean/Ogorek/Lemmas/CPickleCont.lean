import Ogorek.Lemmas.CPickleForms

/-!
  Decoding what CPython's pickler writes (C02): tuples, and the groups of APPEND(S) that fill a list
  (the groups themselves: `Lemmas/CPickleOut.lean`).
-/
namespace Ogorek

theorem RepGList.length {cfg : Cfg} {n : Nat} {h : List HObj} : {rs : List GoVal} → {xs : List PyObj} →
    RepGList cfg n h rs xs → rs.length = xs.length
  | [], [], _ => rfl
  | [], _ :: _, hr | _ :: _, [], hr => hr.elim
  | _ :: _, _ :: _, ⟨_, hr⟩ => congrArg (· + 1) (RepGList.length hr)

section
variable {mc : MCfg} {hook : Hook} {c : ECfg} {σ : Type} {I : σ → DState → Prop}

theorem pushesG_tupleN (hI : MemoOnly I) (xs : List PyObj) (h1 : 1 ≤ xs.length) (h3 : xs.length ≤ 3) (items : Bytes) {s s' : σ}
    (hi : PushesGN mc hook c I items xs s s') :
    PushesG mc hook c I (items ++ [if xs.length = 1 then 0x85 else if xs.length = 2 then 0x86 else 0x87]) (.tuple xs) s s' := by
  refine RunsP.snoc hi (parses_tuple123 xs.length h1 h3) ?_
  rintro pos st st' _ _ _ ⟨hj, rs, hst, hr, hk⟩
  have hexec : exec mc hook (.tupleN xs.length) pos st' = .ok { st' with stack := .tuple rs :: st.stack } :=
    exec_tupleN hst hr.length hr.no_mark
  exact ⟨_, hexec, rfl, hI s' st' _ rfl hj, .tuple rs, rfl, ⟨rs, rfl, hr⟩, hk⟩

theorem PushesGN.marked (hI : MemoOnly I) {items : Bytes} {xs : List PyObj} {s s' : σ} (hi : PushesGN mc hook c I items xs s s') :
    RunsP mc hook c (40 :: items) (I s) (fun st st' => I s' st' ∧ ∃ rs, st'.stack = rs.reverse ++ .mark :: st.stack ∧
      RepGList mc.cfg st.heap.length st'.heap rs xs ∧ KeepsH st st') :=
  RunsP.weaken (RunsP.mark_then hi) (fun st hj => hI s st (push st .mark) rfl hj) (fun _ _ _ _ q => q)

theorem pushesG_tupleMark (hI : MemoOnly I) (xs : List PyObj) (items : Bytes) {s s' : σ} (hi : PushesGN mc hook c I items xs s s') :
    PushesG mc hook c I (40 :: items ++ [116]) (.tuple xs) s s' := by
  unfold PushesG
  refine RunsP.snoc (PushesGN.marked hI hi) (parses_op 116 .tuple rfl parseArg_116) ?_
  rintro pos st st' _ _ _ ⟨hj, rs, hst, hr, hk⟩
  have hsp : splitAtMark st'.stack = some (rs.reverse, st.stack) := by
    rw [hst]
    exact splitAtMark_append rs.reverse st.stack (fun r hr' => hr.no_mark r (by simpa using hr'))
  have hexec : exec mc hook .tuple pos st' = .ok { st' with stack := .tuple rs :: st.stack } := by
    simp only [exec, hsp, List.reverse_reverse]
  exact ⟨_, hexec, rfl, hI s' st' _ rfl hj, .tuple rs, rfl, ⟨rs, rfl, hr⟩, hk⟩

/-- `short`: CPython closes with TUPLE1-3 (from protocol 2 on, up to three items), else MARK … TUPLE. -/
theorem pushesG_tuple (hI : MemoOnly I) (short : Prop) [Decidable short] (xs : List PyObj)
    (hshort : short → 1 ≤ xs.length ∧ xs.length ≤ 3) {items close pb : Bytes} {s s1 s2 : σ}
    (hclose : close = if short then [if xs.length = 1 then 0x85 else if xs.length = 2 then 0x86 else 0x87] else [116])
    (hi : PushesGN mc hook c I items xs s s1) (hput : PutOK mc hook c I pb (fun _ => True) s1 s2) :
    PushesG mc hook c I ((if short then [] else [40]) ++ items ++ close ++ pb) (.tuple xs) s s2 := by
  subst hclose
  by_cases h : short
  · simp only [h, if_true, List.nil_append]
    exact (pushesG_tupleN hI xs (hshort h).1 (hshort h).2 items hi).put hput (fun _ _ _ _ => trivial)
  · simp only [h, if_false]
    exact (pushesG_tupleMark hI xs items hi).put hput (fun _ _ _ _ => trivial)

theorem pushesG_emptyTuple (hI : MemoOnly I) (p : Nat) (s : σ) :
    PushesG mc hook c I (if p ≥ 1 then [41] else [40, 116]) (.tuple []) s s := by
  split
  · exact (PushesV.one hI s (parses_op 41 .emptyTuple rfl parseArg_41) (fun _ _ => rfl)).toG
      (fun _ _ => ⟨[], rfl, trivial⟩)
  · exact pushesG_tupleMark hI [] [] (PushesGN.nil s)

end

theorem FragsGN.items {mc : MCfg} {hook : Hook} {c : ECfg} {σ : Type} {I : σ → DState → Prop} {fs : List Bytes} {xs : List PyObj}
    {s s' : σ} (h : FragsGN mc hook c I fs (xs.map fun x => [x]) s s') : PushesGN mc hook c I fs.flatten xs s s' := by
  have e : (xs.map fun x => [x]).flatten = xs := by simpa using flatten_map_singleton id xs
  exact e ▸ h.flatten

section
variable {mc : MCfg} {hook : Hook} {c : ECfg} {σ : Type} {I : σ → DState → Prop}

def ListTop (st : DState) : Prop := ∃ acc s0, st.stack = .list acc :: s0

/-- What a group of APPEND(S) does: the list on top of the stack gets the new items appended, everything else stays. -/
def ListQ (cfg : Cfg) (xs : List PyObj) (st st' : DState) : Prop :=
  ∀ acc s0, st.stack = .list acc :: s0 → ∃ rs, st'.stack = .list (acc ++ rs) :: s0 ∧
    RepGList cfg st.heap.length st'.heap rs xs ∧ KeepsH st st'

theorem ListQ.fill {cfg : Cfg} {xs : List PyObj} {st st1 : DState} {acc rs s0 : List GoVal} (hs : st.stack = .list acc :: s0)
    (hr : RepGList cfg st.heap.length st1.heap rs xs) (hk : KeepsH st st1) :
    ListQ cfg xs st { st1 with stack := .list (acc ++ rs) :: s0 } := by
  intro acc' s0' hs'
  rw [hs] at hs'
  cases hs'
  exact ⟨rs, rfl, hr, hk⟩

theorem ListQ.nil {cfg : Cfg} (st : DState) : ListQ cfg [] st st :=
  fun acc _ hs => ⟨[], by simpa using hs, trivial, KeepsH.refl st⟩

theorem ListQ.top {cfg : Cfg} {xs : List PyObj} {st st' : DState} (q : ListQ cfg xs st st') (ht : ListTop st) : ListTop st' :=
  have ⟨acc, s0, hs⟩ := ht
  have ⟨rs, hs', _⟩ := q acc s0 hs
  ⟨acc ++ rs, s0, hs'⟩

theorem ListQ.trans {cfg : Cfg} {xs1 xs2 : List PyObj} {st st1 st2 : DState} (q1 : ListQ cfg xs1 st st1) (q2 : ListQ cfg xs2 st1 st2) :
    ListQ cfg (xs1 ++ xs2) st st2 := by
  intro acc s0 hs
  obtain ⟨rs1, hs1, hr1, hk1⟩ := q1 acc s0 hs
  obtain ⟨rs2, hs2, hr2, hk2⟩ := q2 (acc ++ rs1) s0 hs1
  exact ⟨rs1 ++ rs2, by rw [hs2, List.append_assoc], hr1.append_runs hk1 hr2 hk2, hk1.trans hk2⟩

theorem runs_listGroup (hI : MemoOnly I) (g : Grp PyObj) {s s' : σ}
    (hf : FragsGN mc hook c I (g.items.map (·.1)) (g.items.map fun x => [x.2]) s s') :
    RunsP mc hook c (encGrp 97 101 g) (fun st => I s st ∧ ListTop st) (fun st st' => I s' st' ∧ ListQ mc.cfg (g.items.map (·.2)) st st') := by
  have hfl := FragsGN.flatten hf
  rw [flatten_map_singleton] at hfl
  cases g with
  | single x =>
    simp only [Grp.items, List.map_cons, List.map_nil, List.flatten_cons, List.flatten_nil, List.append_nil] at hfl
    refine RunsP.snoc (RunsP.weaken hfl (fun _ h => h.1) (fun _ _ _ _ q => q)) (parses_op 97 .append rfl parseArg_97) ?_
    rintro pos st st' _ ⟨_, acc, s0, hs⟩ _ ⟨hj, rs, hst, hr, hk⟩
    obtain ⟨r, rfl⟩ := List.length_eq_one_iff.mp hr.length
    have hst' : st'.stack = r :: .list acc :: s0 := by rw [hst, hs]; rfl
    refine ⟨{ st' with stack := .list (acc ++ [r]) :: s0 }, ?_, rfl, hI _ st' _ rfl hj, ListQ.fill hs hr hk⟩
    simp [exec, xpop, hst', bind, Except.bind, userOK_of_not_mark (hr.no_mark r (by simp)), listAppend, pure, Except.pure]
  | multi xs =>
    simp only [Grp.items] at hfl ⊢
    show RunsP mc hook c ((40 :: (xs.map (·.1)).flatten) ++ [101]) _ _
    refine RunsP.snoc (RunsP.weaken (PushesGN.marked hI hfl) (fun _ h => h.1) (fun _ _ _ _ q => q)) (parses_op 101 .appends rfl parseArg_101) ?_
    rintro pos st st' _ ⟨_, acc, s0, hs⟩ _ ⟨hj, rs, hst, hr, hk⟩
    have hsp : splitAtMark st'.stack = some (rs.reverse, .list acc :: s0) := by
      rw [hst, hs]
      exact splitAtMark_append rs.reverse _ (fun r hr' => hr.no_mark r (by simpa using hr'))
    have hexec : exec mc hook .appends pos st' = .ok { st' with stack := .list (acc ++ rs) :: s0 } := by
      simp only [exec, hsp, List.reverse_reverse, listAppend]
    exact ⟨_, hexec, rfl, hI _ st' _ rfl hj, ListQ.fill hs hr hk⟩

theorem runs_listGroups (hI : MemoOnly I) : (gs : List (Grp PyObj)) → {s s' : σ} →
    FragsGN mc hook c I ((grpItems gs).map (·.1)) ((grpItems gs).map fun x => [x.2]) s s' →
    RunsP mc hook c (encGrps 97 101 gs) (fun st => I s st ∧ ListTop st)
      (fun st st' => I s' st' ∧ ListQ mc.cfg ((grpItems gs).map (·.2)) st st')
  | [], s, _, hf => by
    cases (hf : s = _)
    exact RunsP.nil fun st hp => ⟨hp.1, ListQ.nil st⟩
  | g :: gs, s, s', hf => by
    simp only [grpItems_cons, List.map_append] at hf ⊢
    obtain ⟨sm, h1, h2⟩ := FragsGN.append_inv (by simp) hf
    rw [encGrps_cons]
    exact RunsP.weaken (RunsP.seq (runs_listGroup hI g h1) (runs_listGroups hI gs h2) fun _ _ hp _ q => ⟨q.1, q.2.top hp.2⟩)
      (fun _ h => h) fun _ _ _ _ ⟨_, _, q1, q2⟩ => ⟨q2.1, q1.2.trans q2.2⟩

end

end Ogorek
