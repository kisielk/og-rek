import Ogorek.Lemmas.EncParse
import Ogorek.Lemmas.EncParseTxt
import Ogorek.Lemmas.Latin1
import Ogorek.Props.C02
import Ogorek.Lemmas.RepKeys
import Ogorek.Lemmas.Step

/-! Encode → Decode: running the encoder's output on the decoder machine (see `Lemmas/Rep.lean`). -/

namespace Ogorek

variable {ρ : GoVal → GoVal} {rk : Bool}

/-- What a straight-line fragment of the encoder's output may do to the decoder state besides pushing. -/
structure Frame (st st' : DState) : Prop where
  memo : st'.memo = st.memo
  proto : st'.proto = st.proto
  heap : ∃ t, st'.heap = st.heap ++ t

theorem Frame.of_heap_eq {st st' : DState} (hm : st'.memo = st.memo) (hp : st'.proto = st.proto)
    (hh : st'.heap = st.heap) : Frame st st' := ⟨hm, hp, [], by rw [hh, List.append_nil]⟩

theorem Frame.refl (st : DState) : Frame st st := .of_heap_eq rfl rfl rfl

theorem Frame.trans {a b c : DState} (h1 : Frame a b) (h2 : Frame b c) : Frame a c := by
  obtain ⟨t1, e1⟩ := h1.heap
  obtain ⟨t2, e2⟩ := h2.heap
  exact ⟨h2.memo.trans h1.memo, h2.proto.trans h1.proto, t1 ++ t2, by rw [e2, e1, List.append_assoc]⟩

theorem Frame.push (st : DState) (v : GoVal) : Frame st (Ogorek.push st v) := .of_heap_eq rfl rfl rfl

/-- The decoder's view of "which module holds bytearray" agrees with the encoder's. -/
def ProtoOK (c : ECfg) (st : DState) : Prop := pybuiltinModule st.proto = pybuiltinModuleE c.proto

theorem ProtoOK.frame {c : ECfg} {st st' : DState} (h : ProtoOK c st) (f : Frame st st') : ProtoOK c st' := by
  unfold ProtoOK at *; rw [f.proto]; exact h

def Runs (mc : MCfg) (hook : Hook) (c : ECfg) (bs : Bytes) (Q : DState → DState → Prop) : Prop :=
  ∃ is, Parses bs is ∧ ∀ insn st, ProtoOK c st →
    ∃ st', runFrom mc hook insn is st = .ok st' ∧ Frame st st' ∧ Q st st'

theorem Runs.weaken {mc : MCfg} {hook : Hook} {c : ECfg} {bs : Bytes} {Q Q' : DState → DState → Prop}
    (h : Runs mc hook c bs Q) (hq : ∀ st st', Frame st st' → Q st st' → Q' st st') : Runs mc hook c bs Q' := by
  obtain ⟨is, hp, hr⟩ := h
  refine ⟨is, hp, fun insn st hpo => ?_⟩
  obtain ⟨st', e, f, q⟩ := hr insn st hpo
  exact ⟨st', e, f, hq st st' f q⟩

theorem Runs.seq {mc : MCfg} {hook : Hook} {c : ECfg} {b1 b2 : Bytes} {Q1 Q2 : DState → DState → Prop}
    (h1 : Runs mc hook c b1 Q1) (h2 : Runs mc hook c b2 Q2) :
    Runs mc hook c (b1 ++ b2) (fun st st'' => ∃ st', Frame st st' ∧ Frame st' st'' ∧ Q1 st st' ∧ Q2 st' st'') := by
  obtain ⟨is1, hp1, hr1⟩ := h1
  obtain ⟨is2, hp2, hr2⟩ := h2
  refine ⟨is1 ++ is2, Parses.append hp1 hp2, fun insn st hpo => ?_⟩
  obtain ⟨st1, e1, f1, q1⟩ := hr1 insn st hpo
  obtain ⟨st2, e2, f2, q2⟩ := hr2 (insn + is1.length) st1 (hpo.frame f1)
  refine ⟨st2, ?_, f1.trans f2, st1, f1, f2, q1, q2⟩
  rw [runFrom_append mc hook is1 is2 insn st st1 e1, e2]

theorem Runs.one {mc : MCfg} {hook : Hook} {c : ECfg} {bs : Bytes} {i : Insn} {Q : DState → DState → Prop}
    (hp : Parses bs [i])
    (he : ∀ pos st, ProtoOK c st → ∃ st', exec mc hook i pos st = .ok st' ∧ Frame st st' ∧ Q st st') : Runs mc hook c bs Q := by
  refine ⟨[i], hp, fun insn st hpo => ?_⟩
  obtain ⟨st', e, f, q⟩ := he (insn + 1) st hpo
  exact ⟨st', by simp [runFrom, e], f, q⟩

theorem Runs.nil {mc : MCfg} {hook : Hook} {c : ECfg} : Runs mc hook c [] (fun st st' => st' = st) :=
  ⟨[], Parses.nil, fun _ st _ => ⟨st, rfl, Frame.refl st, rfl⟩⟩

def Pushes (mc : MCfg) (hook : Hook) (c : ECfg) (bs : Bytes) (P : List HObj → GoVal → Prop) : Prop :=
  Runs mc hook c bs (fun st st' => ∃ r, st'.stack = r :: st.stack ∧ P st'.heap r)

def PushesN (mc : MCfg) (hook : Hook) (c : ECfg) (bs : Bytes) (l : Nat) (PL : List HObj → List GoVal → Prop) : Prop :=
  Runs mc hook c bs (fun st st' => ∃ rs, st'.stack = rs.reverse ++ st.stack ∧ rs.length = l ∧
    (∀ r ∈ rs, isMark r = false) ∧ PL st'.heap rs)

theorem Pushes.one {mc : MCfg} {hook : Hook} {c : ECfg} {bs : Bytes} {i : Insn} {P : List HObj → GoVal → Prop} (r : DState → GoVal)
    (hp : Parses bs [i]) (he : ∀ pos st, exec mc hook i pos st = .ok (push st (r st))) (hP : ∀ st, P st.heap (r st)) :
    Pushes mc hook c bs P :=
  Runs.one hp fun pos st _ => ⟨push st (r st), he pos st, Frame.push st _, r st, rfl, hP st⟩

theorem parses_nil_eq {is : List Insn} (h : Parses [] is) : is = [] :=
  List.eq_nil_of_length_eq_zero (Nat.le_zero.mp (parses_length_le h))

theorem splitAtMark_append : (l s : List GoVal) → (∀ r ∈ l, isMark r = false) →
    splitAtMark (l ++ .mark :: s) = some (l, s)
  | [], s, _ => by simp [splitAtMark, isMark]
  | r :: l, s, h => by
    have h1 : isMark r = false := h r (by simp)
    have h2 := splitAtMark_append l s (fun x hx => h x (by simp [hx]))
    simp [splitAtMark, h1, h2]

theorem Runs.snoc {mc : MCfg} {hook : Hook} {c : ECfg} {b1 b2 : Bytes} {i : Insn} {Q1 Q : DState → DState → Prop}
    (h1 : Runs mc hook c b1 Q1) (hp : Parses b2 [i])
    (he : ∀ pos st st', ProtoOK c st' → Frame st st' → Q1 st st' →
      ∃ st'', exec mc hook i pos st' = .ok st'' ∧ Frame st' st'' ∧ Q st st'') :
    Runs mc hook c (b1 ++ b2) Q := by
  obtain ⟨is1, hp1, hr1⟩ := h1
  refine ⟨is1 ++ [i], Parses.append hp1 hp, fun insn st hpo => ?_⟩
  obtain ⟨st1, e1, f1, q1⟩ := hr1 insn st hpo
  obtain ⟨st2, e2, f2, q2⟩ := he (insn + is1.length + 1) st st1 (hpo.frame f1) f1 q1
  refine ⟨st2, ?_, f1.trans f2, q2⟩
  rw [runFrom_append mc hook is1 [i] insn st st1 e1]
  simp [runFrom, e2]

theorem Runs.mark_then {mc : MCfg} {hook : Hook} {c : ECfg} {b : Bytes} {Q : DState → DState → Prop} (h : Runs mc hook c b Q) :
    Runs mc hook c (40 :: b) (fun st st' => Q (push st .mark) st') := by
  obtain ⟨is, hp, hr⟩ := h
  refine ⟨.mark :: is, ?_, fun insn st hpo => ?_⟩
  · have := Parses.append (parses_op 40 .mark rfl parseArg_40) hp
    simpa using this
  · obtain ⟨st', e, f, q⟩ := hr (insn + 1) (push st .mark) (hpo.frame (Frame.push st _))
    exact ⟨st', e, (Frame.push st _).trans f, q⟩

theorem PushesN.zero {mc : MCfg} {hook : Hook} {c : ECfg} {PL : List HObj → List GoVal → Prop}
    (h : PushesN mc hook c [] 0 PL) (st : DState) (hpo : ProtoOK c st) : PL st.heap [] := by
  obtain ⟨is, hp, hr⟩ := h
  have := parses_nil_eq hp; subst this
  obtain ⟨st', e, _, rs, _, hlen, _, hPL⟩ := hr 0 st hpo
  simp only [runFrom, Except.ok.injEq] at e; subst e
  rwa [List.length_eq_zero_iff.mp hlen] at hPL

theorem pushes_marked {mc : MCfg} {hook : Hook} {c : ECfg} {l : Nat} {items : Out} {PL : List HObj → List GoVal → Prop}
    (b : UInt8) (op : Insn) (F : List GoVal → GoVal) (hs : op.isStop = false) (hop : parseArg b = Rd.pure op)
    (hex : ∀ pos st rs s0, splitAtMark st.stack = some (rs.reverse, s0) →
      exec mc hook op pos st = .ok { st with stack := F rs :: s0 })
    (he : items.err = none) (hi : PushesN mc hook c (flat items) l PL) :
    Pushes mc hook c (flat (emit [40] +> items +> emit [b])) (fun h r => ∃ rs, r = F rs ∧ PL h rs) := by
  have h1 : (emit [40] +> items).err = none := seq_ok rfl he
  rw [flat_seq _ _ h1, flat_seq _ _ rfl, flat_emit, flat_emit]
  refine Runs.snoc (Runs.mark_then hi) (parses_op b op hs hop) ?_
  intro pos st st' _ _ ⟨rs, hst, _, hnm, hPL⟩
  refine ⟨{ st' with stack := F rs :: st.stack }, hex pos st' rs st.stack ?_, .of_heap_eq rfl rfl rfl, F rs, rfl, rs, rfl, hPL⟩
  rw [hst]
  exact splitAtMark_append rs.reverse st.stack (fun r hr => hnm r (by simpa using hr))

theorem pushes_tupleOf {mc : MCfg} {hook : Hook} {c : ECfg} (l : Nat) (items : Out) (PL : List HObj → List GoVal → Prop)
    (he : items.err = none) (hl0 : l = 0 → flat items = [])
    (hi : PushesN mc hook c (flat items) l PL) :
    Pushes mc hook c (flat (encodeTupleOf c l items)) (fun h r => ∃ rs, r = .tuple rs ∧ PL h rs) := by
  unfold encodeTupleOf
  split
  · -- TUPLE1..3
    rename_i h
    rw [flat_seq _ _ he, flat_emit]
    refine Runs.snoc hi (parses_tuple123 l h.2.1 h.2.2) ?_
    intro pos st st' _ _ ⟨rs, hst, hlen, hnm, hPL⟩
    exact ⟨{ st' with stack := .tuple rs :: st.stack }, exec_tupleN hst hlen hnm, .of_heap_eq rfl rfl rfl, .tuple rs, rfl,
      rs, rfl, hPL⟩
  · split
    · -- EMPTY_TUPLE
      rename_i h
      obtain ⟨_, rfl⟩ := h
      rw [flat_emit]
      rw [hl0 rfl] at hi
      exact Runs.one (parses_op 41 .emptyTuple rfl parseArg_41) fun pos st hpo =>
        ⟨push st (.tuple []), rfl, Frame.push st _, .tuple [], rfl, [], rfl, hi.zero st hpo⟩
    · -- MARK items TUPLE
      exact pushes_marked 116 .tuple .tuple rfl parseArg_116
        (fun pos st rs s0 h => by dsimp only [exec]; rw [h]; dsimp only; rw [List.reverse_reverse]) he hi

/-- Lists are values here, not heap objects: `listRef` is off. -/
theorem pushes_listform {mc : MCfg} {hook : Hook} {c : ECfg} (hlr : mc.listRef = false) (l : Nat) (items : Out)
    (PL : List HObj → List GoVal → Prop) (he : items.err = none) (hl0 : l = 0 → flat items = [])
    (hi : PushesN mc hook c (flat items) l PL) :
    Pushes mc hook c (flat (if c.proto ≥ 1 ∧ l = 0 then emit [93] else emit [40] +> items +> emit [108]))
      (fun h r => ∃ rs, r = .list rs ∧ PL h rs) := by
  split
  · rename_i h
    obtain ⟨_, rfl⟩ := h
    rw [flat_emit]
    rw [hl0 rfl] at hi
    exact Runs.one (parses_op 93 .emptyList rfl parseArg_93) fun pos st hpo =>
      ⟨push st (.list []), by dsimp only [exec, mkList]; rw [hlr]; rfl, Frame.push st _, .list [], rfl, [], rfl, hi.zero st hpo⟩
  · exact pushes_marked 108 .list .list rfl parseArg_108
      (fun pos st rs s0 h => by dsimp only [exec, mkList]; rw [h, hlr]; dsimp only; rw [List.reverse_reverse]; rfl) he hi

theorem encodeUnicode_err {c : ECfg} (s : Bytes) (hp : c.proto ≥ 1) : (encodeUnicode c s).err = none := by
  unfold encodeUnicode; simp only [hp, if_true]; split <;> simp [Out.seq, emit]

theorem encodeByteString_err {c : ECfg} (ip : IsPrint) (s : Bytes) (hp : c.proto ≥ 1) : (encodeByteString ip c s).err = none := by
  unfold encodeByteString; simp only [hp, if_true]; split <;> simp [Out.seq, emit]

theorem encodeString_err {c : ECfg} (ip : IsPrint) (s : Bytes) (hp : c.proto ≥ 1) : (encodeString ip c s).err = none := by
  unfold encodeString; split
  · exact encodeUnicode_err s hp
  · exact encodeByteString_err ip s hp

theorem encodeTupleOf_err {c : ECfg} (l : Nat) (items : Out) (h : items.err = none) : (encodeTupleOf c l items).err = none := by
  unfold encodeTupleOf
  split
  · exact seq_ok h rfl
  · split
    · rfl
    · exact seq_ok (seq_ok rfl h) rfl

theorem encodeClass_err {c : ECfg} (ip : IsPrint) (m n : Bytes) (hp : c.proto ≥ 1)
    (hlf : (containsLF m || containsLF n) = false) : (encodeClass ip c m n).err = none := by
  unfold encodeClass
  split
  · exact seq_ok (seq_ok (encodeString_err ip m hp) (encodeString_err ip n hp)) rfl
  · simp [hlf]

theorem encodeTupleOf_err_inv {c : ECfg} (l : Nat) (items : Out) (hl : l ≠ 0) (h : (encodeTupleOf c l items).err = none) :
    items.err = none := by
  unfold encodeTupleOf at h
  split at h
  · exact (seq_err_none h).1
  · split at h
    · rename_i hh; exact absurd hh.2 hl
    · exact (seq_err_none (seq_err_none h).1).2

theorem encList_err_of_tuple (ip : IsPrint) (c : ECfg) {xs : List GoVal}
    (h : (encodeTupleOf c xs.length (encList ip c xs)).err = none) : (encList ip c xs).err = none := by
  cases xs with
  | nil => rfl
  | cons x xs' => exact encodeTupleOf_err_inv _ _ (Nat.succ_ne_zero _) h

section forms
variable {mc : MCfg} {hook : Hook} {c : ECfg} (ip : IsPrint)

theorem pushes_none : Pushes mc hook c (flat (emit [78])) (fun _ r => r = .none) := by
  rw [flat_emit]
  exact Pushes.one (fun _ => .none) (parses_op 78 .pushNone rfl parseArg_78) (fun _ _ => rfl) (fun _ => rfl)

theorem pushes_bool (b : Bool) : Pushes mc hook c (flat (encodeBool c b)) (fun _ r => r = .bool b) :=
  Pushes.one (fun _ => .bool b) (parses_bool' c b) (fun _ _ => rfl) (fun _ => rfl)

theorem pushes_int (i : Int) (hi : inInt64 i = true) : Pushes mc hook c (flat (encodeInt c i)) (fun _ r => r = .int i) :=
  Pushes.one (fun _ => .int i) (parses_int c i hi) (fun _ _ => rfl) (fun _ => rfl)

theorem pushes_long (i : Int) : Pushes mc hook c (flat (encodeLong i)) (fun _ r => ∃ id, r = .big id i) :=
  Runs.one (parses_long i) fun _ st _ =>
    ⟨push { st with nbig := st.nbig + 1 } (.big st.nbig i), rfl, .of_heap_eq rfl rfl rfl, .big st.nbig i, rfl, st.nbig, rfl⟩

theorem pushes_float (f : F64) (hf : c.proto ≥ 1 ∨ FloatTextOK f) : Pushes mc hook c (flat (encodeFloat c f)) (fun _ r => r = .float f) := by
  by_cases hp : c.proto ≥ 1
  · exact Pushes.one (fun _ => .float f) (parses_float_bin c f hp) (fun _ _ => rfl) (fun _ => rfl)
  · exact Pushes.one (fun _ => .float f) (parses_float_txt c f hp (hf.resolve_left hp)) (fun _ _ => rfl) (fun _ => rfl)

theorem pushes_unicode (s : Bytes) (hl : s.length < 2 ^ 32) (he : (encodeUnicode c s).err = none) :
    Pushes mc hook c (flat (encodeUnicode c s)) (fun _ r => r = .str s) := by
  by_cases hp : c.proto ≥ 1
  · exact Pushes.one (fun _ => .str s) (parses_unicode_bin c s hp hl) (fun _ _ => rfl) (fun _ => rfl)
  · exact Pushes.one (fun _ => .str s) (parses_unicode_txt c s hp he) (fun _ _ => rfl) (fun _ => rfl)

theorem pushes_bytestring (hip : ip 10 = false) (s : Bytes) (hl : s.length < 2 ^ 32) :
    Pushes mc hook c (flat (encodeByteString ip c s)) (fun _ r => r = if mc.cfg.su then .bytestr s else .str s) := by
  by_cases hp : c.proto ≥ 1
  · exact Pushes.one (fun _ => if mc.cfg.su then .bytestr s else .str s) (parses_bytestring_bin ip c s hp hl)
      (fun _ _ => rfl) (fun _ => rfl)
  · exact Pushes.one (fun _ => if mc.cfg.su then .bytestr s else .str s) (parses_bytestring_txt ip hip c s hp)
      (fun _ _ => rfl) (fun _ => rfl)

theorem pushes_string (hip : ip 10 = false) (hsu : mc.cfg.su = c.su) (s : Bytes) (hl : s.length < 2 ^ 32)
    (he : (encodeString ip c s).err = none) :
    Pushes mc hook c (flat (encodeString ip c s)) (fun _ r => r = .str s) := by
  unfold encodeString at he ⊢
  split
  · rename_i h; simp only [h, if_true] at he
    exact pushes_unicode s hl he
  · rename_i h
    have hs : mc.cfg.su = false := by
      rw [hsu]; cases hc : c.su
      · rfl
      · exact absurd (Or.inl hc) h
    have := pushes_bytestring (mc := mc) (hook := hook) (c := c) ip hip s hl
    simpa [hs] using this

theorem pushes_class (hip : ip 10 = false) (hsu : mc.cfg.su = c.su) (m n : Bytes) (hm : m.length < 2 ^ 32) (hn : n.length < 2 ^ 32)
    (he : (encodeClass ip c m n).err = none) :
    Pushes mc hook c (flat (encodeClass ip c m n)) (fun _ r => r = .cls m n) := by
  by_cases h4 : c.proto ≥ 4
  · have e : encodeClass ip c m n = encodeString ip c m +> encodeString ip c n +> emit [0x93] := by
      simp [encodeClass, h4]
    rw [e] at he ⊢
    obtain ⟨h12, _⟩ := seq_err_none he
    obtain ⟨h1, h2⟩ := seq_err_none h12
    rw [flat_seq _ _ h12, flat_seq _ _ h1, flat_emit]
    have r1 := pushes_string (mc := mc) (hook := hook) ip hip hsu m hm h1
    have r2 := pushes_string (mc := mc) (hook := hook) ip hip hsu n hn h2
    refine Runs.snoc (Runs.seq r1 r2) (parses_op 0x93 .stackGlobal rfl parseArg_147) ?_
    intro pos st st2 _ _ ⟨st1, _, _, ⟨a, ha, ea⟩, ⟨b, hb, eb⟩⟩
    subst ea; subst eb
    have hst : st2.stack = .str n :: .str m :: st.stack := by rw [hb, ha]
    exact ⟨{ st2 with stack := .cls m n :: st.stack }, exec_stackGlobal hst, .of_heap_eq rfl rfl rfl, .cls m n, rfl, rfl⟩
  · exact Pushes.one (fun _ => .cls m n) (parses_class_global ip c m n h4 he) (fun _ _ => rfl) (fun _ => rfl)

end forms

section reduce
variable {mc : MCfg} {hook : Hook} {c : ECfg} (ip : IsPrint)

def reduceRes (proto : Nat) (m n : Bytes) (rs : List GoVal) : M GoVal :=
  match handleCall proto m n rs with
  | some r => r
  | none => .ok (.call m n rs)

theorem pushes_reduce (m n : Bytes) (clsOut argsOut : Out) (PL : List HObj → List GoVal → Prop)
    (R : List HObj → GoVal → Prop)
    (h1 : clsOut.err = none) (h2 : argsOut.err = none)
    (hc : Pushes mc hook c (flat clsOut) (fun _ r => r = .cls m n))
    (ha : Pushes mc hook c (flat argsOut) (fun h r => ∃ rs, r = .tuple rs ∧ PL h rs))
    (hred : ∀ st rs, ProtoOK c st → PL st.heap rs → ∃ v, reduceRes st.proto m n rs = .ok v ∧ R st.heap v) :
    Pushes mc hook c (flat (clsOut +> argsOut +> emit [82])) R := by
  have h12 : (clsOut +> argsOut).err = none := seq_ok h1 h2
  rw [flat_seq _ _ h12, flat_seq _ _ h1, flat_emit]
  refine Runs.snoc (Runs.seq hc ha) (parses_op 82 .reduce rfl parseArg_82) ?_
  intro pos st st2 hpo _ ⟨st1, _, _, ⟨a, ha', ea⟩, ⟨b, hb, rs, eb, hPL⟩⟩
  subst ea; subst eb
  have hst : st2.stack = .tuple rs :: .cls m n :: st.stack := by rw [hb, ha']
  obtain ⟨v, hv, hR⟩ : ∃ v, reduceRes st2.proto m n rs = .ok v ∧ R st2.heap v :=
    hred { st2 with stack := st.stack } rs hpo hPL
  refine ⟨{ st2 with stack := v :: st.stack }, ?_, .of_heap_eq rfl rfl rfl, v, rfl, hR⟩
  rw [exec_reduce hst]
  unfold reduceRes at hv
  cases hh : handleCall st2.proto m n rs with
  | none => rw [hh] at hv; cases hv; rfl
  | some r => rw [hh] at hv; cases hv; rfl

end reduce

section bytesforms
variable {mc : MCfg} {hook : Hook} {c : ECfg} (ip : IsPrint)

theorem PushesN.of_one {bs : Bytes} {P : GoVal → Prop} (h : Pushes mc hook c bs (fun _ r => P r)) (hm : ∀ r, P r → isMark r = false) :
    PushesN mc hook c bs 1 (fun _ rs => ∃ a, rs = [a] ∧ P a) :=
  Runs.weaken h fun st st' _ ⟨r, hs, hP⟩ => ⟨[r], by simpa using hs, rfl, by simpa using hm r hP, r, rfl, hP⟩

theorem PushesN.of_two {b1 b2 : Bytes} {P1 P2 : GoVal → Prop} (h1 : Pushes mc hook c b1 (fun _ r => P1 r))
    (h2 : Pushes mc hook c b2 (fun _ r => P2 r)) (hm1 : ∀ r, P1 r → isMark r = false) (hm2 : ∀ r, P2 r → isMark r = false) :
    PushesN mc hook c (b1 ++ b2) 2 (fun _ rs => ∃ a b, rs = [a, b] ∧ P1 a ∧ P2 b) :=
  Runs.weaken (Runs.seq h1 h2) fun st st' _ ⟨st1, _, _, ⟨a, ha, pa⟩, ⟨b, hb, pb⟩⟩ =>
    ⟨[a, b], by simp [hb, ha], rfl, by simp [hm1 a pa, hm2 b pb], a, b, rfl, pa, pb⟩

theorem latin1ToUtf8_length_le (d : Bytes) : (latin1ToUtf8 d).length ≤ 2 * d.length := by
  unfold latin1ToUtf8
  induction d with
  | nil => exact Nat.le_refl 0
  | cons b d ih =>
    have hb : (encodeRune b.toNat).length ≤ 2 := by
      unfold encodeRune
      by_cases h : b.toNat < 0x80
      · rw [if_pos h]; exact Nat.le_succ 1
      · rw [if_neg h, if_pos (Nat.lt_trans b.toNat_lt (by decide))]; exact Nat.le_refl 2
    rw [List.flatMap_cons, List.length_append, List.length_cons]
    omega

theorem pushes_bytes (hip : ip 10 = false) (hsu : mc.cfg.su = c.su) (s : Bytes) (hl : s.length < 2 ^ 31)
    (he : (encodeBytes ip c s).err = none) :
    Pushes mc hook c (flat (encodeBytes ip c s)) (fun _ r => r = .bytes s) := by
  by_cases h3 : c.proto ≥ 3
  · exact Pushes.one (fun _ => .bytes s) (parses_bytes_hi ip c s h3 (by omega)) (fun _ _ => rfl) (fun _ => rfl)
  · have e : encodeBytes ip c s = encodeClass ip c (sb "_codecs") (sb "encode")
        +> encodeTupleOf c 2 (encodeUnicode c (latin1ToUtf8 s) +> encodeByteString ip c (sb "latin1")) +> emit [82] := by
      simp [encodeBytes, h3, latin1ToUtf8]
    rw [e] at he ⊢
    obtain ⟨h12, _⟩ := seq_err_none he
    obtain ⟨hce, hte⟩ := seq_err_none h12
    have hie := encodeTupleOf_err_inv 2 _ (by omega) hte
    obtain ⟨hue, hbe⟩ := seq_err_none hie
    have hul : (latin1ToUtf8 s).length < 2 ^ 32 := by have := latin1ToUtf8_length_le s; omega
    have hu := pushes_unicode (mc := mc) (hook := hook) (c := c) (latin1ToUtf8 s) hul hue
    have hb := pushes_bytestring (mc := mc) (hook := hook) (c := c) ip hip (sb "latin1") (by rw [sb_latin1]; decide)
    have hitems := PushesN.of_two hu hb (by intro r h; subst h; rfl) (by intro r h; subst h; split <;> rfl)
    rw [← flat_seq _ _ hue] at hitems
    have htup := pushes_tupleOf (mc := mc) (hook := hook) (c := c) 2 _ _ hie (by omega) hitems
    refine pushes_reduce (sb "_codecs") (sb "encode") _ _ _ _ hce hte
      (pushes_class ip hip hsu _ _ (by rw [sb_codecs]; decide) (by rw [sb_encode]; decide) hce) htup ?_
    intro st rs _ ⟨a, b, e, ha, hb⟩
    subst e; subst ha; subst hb
    refine ⟨.bytes s, ?_, rfl⟩
    unfold reduceRes
    cases hsu' : mc.cfg.su
    · simp [(C02_bytes_forms st.proto s).1]
    · simp [(C02_bytes_forms st.proto s).2.1]

end bytesforms

section bytearrayform
variable {mc : MCfg} {hook : Hook} {c : ECfg} (ip : IsPrint)

theorem encodeBytes_err (s : Bytes) (hp : c.proto ≥ 1) : (encodeBytes ip c s).err = none := by
  unfold encodeBytes
  split
  · split <;> simp [Out.seq, emit]
  · have hce : (encodeClass ip c (sb "_codecs") (sb "encode")).err = none := encodeClass_err ip _ _ hp (by rw [sb_codecs, sb_encode]; rfl)
    have hie : (encodeUnicode c (s.flatMap fun b => encodeRune b.toNat) +> encodeByteString ip c (sb "latin1")).err = none :=
      seq_ok (encodeUnicode_err _ hp) (encodeByteString_err ip _ hp)
    exact seq_ok (seq_ok hce (encodeTupleOf_err 2 _ hie)) rfl

theorem pybuiltinModuleE_noLF (p : Int) : (containsLF (pybuiltinModuleE p) || containsLF (sb "bytearray")) = false := by
  unfold pybuiltinModuleE
  rw [sb_builtin2, sb_builtins, sb_bytearray]
  split <;> rfl

theorem pybuiltinModuleE_len (p : Int) : (pybuiltinModuleE p).length < 2 ^ 32 := by
  unfold pybuiltinModuleE
  rw [sb_builtin2, sb_builtins]
  split <;> decide

theorem pushes_bytearray (hip : ip 10 = false) (hsu : mc.cfg.su = c.su) (s : Bytes) (hl : s.length < 2 ^ 31)
    (he : (encodeByteArray ip c s).err = none) :
    Pushes mc hook c (flat (encodeByteArray ip c s)) (fun _ r => r = .bytearray s) := by
  by_cases h5 : c.proto ≥ 5
  · exact Pushes.one (fun _ => .bytearray s) (parses_bytearray_hi ip c s h5 (by omega)) (fun _ _ => rfl) (fun _ => rfl)
  · have e : encodeByteArray ip c s = encodeClass ip c (pybuiltinModuleE c.proto) (sb "bytearray")
        +> encodeTupleOf c 1 (encodeBytes ip c s) +> emit [82] := by
      simp [encodeByteArray, h5]
    rw [e] at he ⊢
    obtain ⟨h12, _⟩ := seq_err_none he
    obtain ⟨hce, hte⟩ := seq_err_none h12
    have hbe := encodeTupleOf_err_inv 1 _ (by omega) hte
    have hitems := PushesN.of_one (pushes_bytes (mc := mc) (hook := hook) ip hip hsu s hl hbe) (by intro r h; subst h; rfl)
    have htup := pushes_tupleOf (mc := mc) (hook := hook) (c := c) 1 _ _ hbe (by omega) hitems
    refine pushes_reduce (pybuiltinModuleE c.proto) (sb "bytearray") _ _ _ _ hce hte
      (pushes_class ip hip hsu _ _ (pybuiltinModuleE_len _) (by rw [sb_bytearray]; decide) hce) htup ?_
    intro st rs hpo ⟨a, e, ha⟩
    subst e; subst ha
    refine ⟨.bytearray s, ?_, rfl⟩
    unfold reduceRes
    unfold ProtoOK at hpo
    rw [← hpo, (C02_bytes_forms st.proto s).2.2.2.2]

end bytearrayform

/-- Calls that the decoder itself interprets (the bytes / bytearray forms): not values of their own. -/
def reservedCall (m n : Bytes) : Bool :=
  (m == sb "_codecs" && n == sb "encode") ||
  ((m == sb "__builtin__" || m == sb "builtins") && (n == sb "bytes" || n == sb "bytearray"))

theorem handleCall_none (proto : Nat) (m n : Bytes) (args : List GoVal) (h : reservedCall m n = false) :
    handleCall proto m n args = none := by
  obtain ⟨h1, h2⟩ := Bool.or_eq_false_iff.mp h
  have hb : (m == pybuiltinModule proto && (n == sb "bytes" || n == sb "bytearray")) = false := by
    cases hm : m == pybuiltinModule proto
    · rfl
    · rw [eq_of_beq hm] at h2
      have : (pybuiltinModule proto == sb "__builtin__" || pybuiltinModule proto == sb "builtins") = true := by
        unfold pybuiltinModule
        split <;> simp only [beq_self_eq_true, Bool.true_or, Bool.or_true]
      rwa [this] at h2
  rw [Bool.and_or_distrib_left, Bool.or_eq_false_iff] at hb
  simp only [handleCall, h1, hb.1, hb.2, Bool.false_and, Bool.false_eq_true, if_false]

def freshOverB (eqf : GoVal → GoVal → Bool) : List GoVal → List GoVal → Bool
  | _, [] => true
  | old, k :: ks => old.all (fun o => !eqf k o) && freshOverB eqf (old ++ [k]) ks

theorem freshOver_of_B {eqf : GoVal → GoVal → Bool} : (old ks : List GoVal) → freshOverB eqf old ks = true → freshOver eqf old ks
  | _, [], _ => by simp [freshOver]
  | old, k :: ks, h => by
    simp only [freshOverB, Bool.and_eq_true, List.all_eq_true, Bool.not_eq_true'] at h
    exact ⟨h.1, freshOver_of_B (old ++ [k]) ks h.2⟩

/-- The keys of one map / Dict literal, as the decoder's table (Dict with PyDict, builtin map without)
    will see them: acceptable as keys, coming back unchanged (`keyLike` / `mapKeyPlain`), and pairwise
    different for that table's notion of equality — so no entry replaces another.  `rk`: see `keyLike`. -/
def keysOK (cfg : Cfg) (rk : Bool) (kvs : Entries) : Bool :=
  if cfg.pyDict then
    kvs.all (fun e => keyLike cfg.su rk e.1 && hashable e.1) && freshOverB goEqual [] (kvs.map (·.1))
  else
    kvs.all (fun e => mapKeyPlain cfg.su rk e.1) && freshOverB goKeyEq [] (kvs.map (·.1))

mutual
/-- Values built only from the types Decode itself produces, with payloads below the 4 GiB that
    the 4-byte length forms can carry, and maps / Dicts whose keys are `keysOK`. -/
def canon (cfg : Cfg) (rk : Bool) : GoVal → Bool
  | .none | .nil | .bool _ | .float _ | .big _ _ => true
  | .int i => inInt64 i
  | .str s | .bytestr s => decide (s.length < 2 ^ 32)
  | .bytes s | .bytearray s => decide (s.length < 2 ^ 31)
  | .cls m n => decide (m.length < 2 ^ 32) && decide (n.length < 2 ^ 32)
  | .list xs | .tuple xs => canonList cfg rk xs
  | .call m n args => decide (m.length < 2 ^ 32) && decide (n.length < 2 ^ 32) && !reservedCall m n && canonList cfg rk args
  | .ref p => canon cfg rk p
  | .map kvs | .dict kvs => canonPairs cfg rk kvs && keysOK cfg rk kvs
  | .uint _ | .complex _ _ | .user _ | .mark | .href _ | .cycle => false
def canonList (cfg : Cfg) (rk : Bool) : List GoVal → Bool
  | [] => true
  | x :: xs => canon cfg rk x && canonList cfg rk xs
def canonPairs (cfg : Cfg) (rk : Bool) : List (GoVal × GoVal) → Bool
  | [] => true
  | (k, v) :: r => canon cfg rk k && canon cfg rk v && canonPairs cfg rk r
end

section dictform
variable {mc : MCfg} {hook : Hook} {c : ECfg}

theorem goMapHashable_of_plain {su : Bool} : (k : GoVal) → mapKeyPlain su rk k = true → goMapHashable k = true
  | .none, _ | .bool _, _ | .int _, _ | .float _, _ | .str _, _ | .bytes _, _ | .cls _ _, _ | .bytestr _, _ => rfl
  | .ref p, h => goMapHashable_of_plain p (Bool.and_eq_true_iff.mp h).2
  | .nil, h | .uint _, h | .complex _ _, h | .bytearray _, h | .list _, h | .map _, h | .big _ _, h
  | .dict _, h | .user _, h | .mark, h | .href _, h | .cycle, h | .tuple _, h | .call _ _ _, h => nomatch h

theorem RepList.eq_of_plain (hρ : rk = true → ∀ p, ρ p = .ref p) {h : List HObj} : {rs ks : List GoVal} → RepList mc ρ h rs ks →
    (∀ k ∈ ks, mapKeyPlain mc.cfg.su rk k = true) → rs = ks
  | [], [], _, _ => rfl
  | [], _ :: _, hr, _ => by simp [RepList] at hr
  | _ :: _, [], hr, _ => by simp [RepList] at hr
  | r :: rs, k :: ks, hr, hk => by
    simp only [RepList] at hr
    rw [Rep.eq_of_plain hρ k hr.1 (hk k (by simp)), RepList.eq_of_plain hρ hr.2 (fun x hx => hk x (by simp [hx]))]

theorem keyLikeList_of_all {su : Bool} : (kvs : Entries) → (∀ e ∈ kvs, keyLike su rk e.1 = true) → keyLikeList su rk (kvs.map (·.1)) = true
  | [], _ => rfl
  | e :: kvs, h => by
    simp only [List.map_cons, keyLikeList, Bool.and_eq_true]
    exact ⟨h e (by simp), keyLikeList_of_all kvs (fun x hx => h x (by simp [hx]))⟩

theorem assignAll_from (hρ : rk = true → ∀ p, ρ p = .ref p) {h : List HObj} (kvs es0 es1 : Entries)
    (hk : keysOK mc.cfg rk kvs = true) (hp : RepPairs mc ρ h (es0 ++ es1) kvs) :
    assignAll (dictKind mc.cfg) es0 (flatE es1) = some (es0 ++ es1) := by
  have hkeys := hp.keys
  unfold keysOK at hk
  unfold dictKind
  by_cases hpd : mc.cfg.pyDict = true
  · rw [if_pos hpd, Bool.and_eq_true, List.all_eq_true] at hk
    rw [if_pos hpd]
    obtain ⟨hall, hfresh⟩ := hk
    have hkl := keyLikeList_of_all (su := mc.cfg.su) kvs fun e he => (Bool.and_eq_true_iff.mp (hall e he)).1
    have hh : ∀ e ∈ es1, hashable e.1 = true := by
      intro e he
      obtain ⟨x, hx, h1, h2⟩ := RepList.mem hkeys hkl e.1 (List.mem_map_of_mem (List.mem_append_right _ he))
      rw [Rep.hashable_eq hρ h1 h2]
      obtain ⟨kv, hkv, rfl⟩ := List.mem_map.mp hx
      exact (Bool.and_eq_true_iff.mp (hall kv hkv)).2
    -- the decoded keys are as different from one another as the encoded ones
    have hf := freshOver_rep hρ (kvs.map (·.1)) ((es0 ++ es1).map (·.1)) [] [] hkeys hkl trivial rfl
      (freshOver_of_B [] _ hfresh)
    rw [List.map_append] at hf
    exact assignAll_dict_append es1 es0 hh (freshOver_of_append _ _ [] hf)
  · rw [if_neg hpd, Bool.and_eq_true, List.all_eq_true] at hk
    rw [if_neg hpd]
    obtain ⟨hall, hfresh⟩ := hk
    have hpl : ∀ k ∈ kvs.map (·.1), mapKeyPlain mc.cfg.su rk k = true := by
      intro k hk'
      obtain ⟨kv, hkv, rfl⟩ := List.mem_map.mp hk'
      exact hall kv hkv
    -- plain keys come back as they went
    have heq := RepList.eq_of_plain hρ hkeys hpl
    have hh : ∀ e ∈ es1, goMapHashable e.1 = true := fun e he =>
      goMapHashable_of_plain _ (hpl _ (heq ▸ List.mem_map_of_mem (List.mem_append_right _ he)))
    have hf := freshOver_of_B [] _ hfresh
    rw [← heq, List.map_append] at hf
    exact assignAll_map_append es1 es0 hh (freshOver_of_append _ _ [] hf)

theorem assignAll_of_keysOK (hρ : rk = true → ∀ p, ρ p = .ref p) {h : List HObj} (kvs es : Entries) (hk : keysOK mc.cfg rk kvs = true) (hp : RepPairs mc ρ h es kvs) :
    assignAll (dictKind mc.cfg) [] (flatE es) = some es :=
  assignAll_from hρ kvs [] es hk hp

theorem pushes_dictform (hρ : rk = true → ∀ p, ρ p = .ref p) (kvs : Entries) (pairsOut : Out) (hk : keysOK mc.cfg rk kvs = true)
    (he : pairsOut.err = none)
    (hi : PushesN mc hook c (flat pairsOut) (flatE kvs).length (fun h rs => RepList mc ρ h rs (flatE kvs))) :
    Pushes mc hook c (flat (if c.proto ≥ 1 ∧ kvs.length = 0 then emit [125] else emit [40] +> pairsOut +> emit [100]))
      (fun h r => ∃ id es, r = .href id ∧ h[id]? = some { kind := dictKind mc.cfg, kvs := es } ∧ RepPairs mc ρ h es kvs) := by
  split
  · rename_i h
    have hx : kvs = [] := List.length_eq_zero_iff.mp h.2
    subst hx
    rw [flat_emit]
    refine Runs.one (parses_op 125 .emptyDict rfl parseArg_125) fun pos st _ => ?_
    refine ⟨push { st with heap := st.heap ++ [{ kind := dictKind mc.cfg }] } (.href st.heap.length), ?_,
      ⟨rfl, rfl, [{ kind := dictKind mc.cfg }], by simp [push]⟩, .href st.heap.length, rfl, st.heap.length, [], rfl, ?_, ?_⟩
    · rfl
    · simp [push]
    · simp [RepPairs]
  · have h1 : (emit [40] +> pairsOut).err = none := seq_ok rfl he
    rw [flat_seq _ _ h1, flat_seq _ _ rfl, flat_emit, flat_emit]
    refine Runs.snoc (Runs.mark_then hi) (parses_op 100 .dict rfl parseArg_100) ?_
    intro pos st st' _ _ ⟨rs, hst, hlen, hnm, hPL⟩
    obtain ⟨es, rfl, hp⟩ := repPairs_of_flat kvs rs hPL
    have hsp : splitAtMark st'.stack = some ((flatE es).reverse, st.stack) := by
      rw [hst]; simp only [push]
      exact splitAtMark_append (flatE es).reverse st.stack (fun r hr => hnm r (by simpa using hr))
    have heven : ¬ ((flatE es).reverse.length % 2 ≠ 0) := by simp [flatE_length]
    have hass := assignAll_of_keysOK hρ kvs es hk hp
    let o : HObj := { kind := dictKind mc.cfg, kvs := es }
    refine ⟨{ st' with heap := st'.heap ++ [o], stack := .href st'.heap.length :: st.stack }, ?_,
      ⟨rfl, rfl, [o], rfl⟩, .href st'.heap.length, rfl, st'.heap.length, es, rfl, by simp [o], RepPairs.mono mc ρ _ _ es kvs hp⟩
    dsimp only [exec]
    simp only [hsp, heven, if_false, List.reverse_reverse, hass, allocObj]
    rfl

end dictform

mutual
/-- The float64 values inside a value (protocol 0 writes them as text: `FloatTextOK`). -/
def floatsOf : GoVal → List F64
  | .float f => [f]
  | .list xs | .tuple xs => floatsOfList xs
  | .call _ _ args => floatsOfList args
  | .ref p => floatsOf p
  | .map kvs | .dict kvs => floatsOfPairs kvs
  | _ => []
def floatsOfList : List GoVal → List F64
  | [] => []
  | x :: xs => floatsOf x ++ floatsOfList xs
def floatsOfPairs : List (GoVal × GoVal) → List F64
  | [] => []
  | (k, v) :: r => floatsOf k ++ floatsOf v ++ floatsOfPairs r
end

def FloatsOK (c : ECfg) (fs : List F64) : Prop := ∀ f ∈ fs, c.proto ≥ 1 ∨ FloatTextOK f

theorem FloatsOK.left {c : ECfg} {a b : List F64} (h : FloatsOK c (a ++ b)) : FloatsOK c a :=
  fun f hf => h f (List.mem_append_left _ hf)
theorem FloatsOK.right {c : ECfg} {a b : List F64} (h : FloatsOK c (a ++ b)) : FloatsOK c b :=
  fun f hf => h f (List.mem_append_right _ hf)

section refs
variable {mc : MCfg} {hook : Hook} {c : ECfg}

/-- `ρ p` is what the decoder leaves on the stack for `Ref{p}` under this hook, whatever the call index:
    the Ref itself without a hook or when the hook answers nil, the hook's object otherwise; never the
    stack marker, never an error. -/
def HookFor (hook : Hook) (ρ : GoVal → GoVal) : Prop :=
  (∀ p, isMark (ρ p) = false) ∧
  match hook with
  | none => ∀ p, ρ p = .ref p
  | some load => ∀ idx p, load idx (.ref p) = .replace (ρ p) ∨ (load idx (.ref p) = .keep ∧ ρ p = .ref p)

theorem handleRef_for (hh : HookFor hook ρ) (st : DState) (p : GoVal) :
    ∃ st', handleRef hook st (.ref p) = .ok st' ∧ st'.stack = ρ p :: st.stack ∧ st'.heap = st.heap ∧
      st'.memo = st.memo ∧ st'.proto = st.proto := by
  obtain ⟨_, hh⟩ := hh
  cases hook with
  | none =>
    simp only at hh
    exact ⟨push st (.ref p), by simp [handleRef], by simp [push, hh p], rfl, rfl, rfl⟩
  | some load =>
    simp only at hh
    rcases hh (({ st with calls := .ref p :: st.calls } : DState).calls.length - 1) p with h1 | ⟨h1, h2⟩
    · refine ⟨push { st with calls := .ref p :: st.calls } (ρ p), ?_, by simp [push], rfl, rfl, rfl⟩
      simp only [handleRef, h1]
    · refine ⟨push { st with calls := .ref p :: st.calls } (.ref p), ?_, by simp [push, h2], rfl, rfl, rfl⟩
      simp only [handleRef, h1]

theorem pushes_ref (hh : HookFor hook ρ) (pid : GoVal) (bs : Bytes) (h : Pushes mc hook c bs (fun h r => Rep mc ρ h r pid)) :
    Pushes mc hook c (bs ++ [81]) (fun h r => Rep mc ρ h r (.ref pid)) := by
  refine Runs.snoc h (parses_op 81 .binpersid rfl parseArg_81) ?_
  intro pos st st' _ _ ⟨r, hs, hr⟩
  obtain ⟨st2, e2, hs2, hheap, hmemo, hproto⟩ := handleRef_for hh ({ st' with stack := st.stack } : DState) r
  refine ⟨st2, ?_, .of_heap_eq hmemo hproto hheap, ρ r, by simpa using hs2, ?_⟩
  · dsimp only [exec]; rw [popUser_cons hs hr.not_mark]; exact e2
  · simp only [Rep]
    rw [hheap]
    exact ⟨r, rfl, hh.1 r, hr⟩

theorem pushes_persid (hh : HookFor hook ρ) (s : Bytes) (h : containsLF s = false) :
    Pushes mc hook c (flat (emit (80 :: s ++ [10]))) (fun h r => Rep mc ρ h r (.ref (.str s))) := by
  refine Runs.one (parses_persid_txt s h) fun pos st _ => ?_
  obtain ⟨st2, e2, hs2, hheap, hmemo, hproto⟩ := handleRef_for hh st (.str s)
  refine ⟨st2, e2, .of_heap_eq hmemo hproto hheap, ρ (.str s), hs2, ?_⟩
  simp only [Rep]
  exact ⟨.str s, rfl, hh.1 _, rfl⟩

theorem PushesN.nil : PushesN mc hook c [] 0 (fun h rs => RepList mc ρ h rs []) :=
  Runs.weaken Runs.nil fun _ _ _ e => ⟨[], by rw [e]; rfl, rfl, nofun, trivial⟩

theorem PushesN.cons {b1 b2 : Bytes} {x : GoVal} {xs : List GoVal} {l : Nat}
    (h1 : Pushes mc hook c b1 (fun h r => Rep mc ρ h r x)) (h2 : PushesN mc hook c b2 l (fun h rs => RepList mc ρ h rs xs)) :
    PushesN mc hook c (b1 ++ b2) (l + 1) (fun h rs => RepList mc ρ h rs (x :: xs)) := by
  refine Runs.weaken (Runs.seq h1 h2) ?_
  intro st st2 _ ⟨st1, _, f2, ⟨r, hs1, hr⟩, ⟨rs, hs2, hlen, hnm, hPL⟩⟩
  obtain ⟨t, ht⟩ := f2.heap
  refine ⟨r :: rs, by simp [hs2, hs1], by simp [hlen], ?_, by rw [ht]; exact Rep.mono mc ρ _ t r x hr, hPL⟩
  intro y hy
  rcases List.mem_cons.mp hy with rfl | hy
  · exact hr.not_mark
  · exact hnm y hy

end refs

end Ogorek
