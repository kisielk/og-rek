import Ogorek.Lemmas.PvmRep

/-! The scalar forms of the encoder on the Python machine. -/
namespace Ogorek

theorem pyUtf8ValidAux_of_runes (sp : Bool) : ∀ (fuel : Nat) (s : Bytes), s.length ≤ fuel →
    ((runesAux fuel s).all fun (r, w) => !(r == runeError && w == 1)) = true → pyUtf8ValidAux sp fuel s = true
  | 0, s, hl, _ => by
    have : s = [] := List.length_eq_zero_iff.mp (by omega)
    subst this; rfl
  | fuel + 1, s, hl, h => by
    unfold pyUtf8ValidAux
    unfold runesAux at h
    cases hd : decodeRune s with
    | mk r w =>
      rw [hd] at h
      cases w with
      | zero => rfl
      | succ w' =>
        simp only [List.all_cons, Bool.and_eq_true] at h
        obtain ⟨h1, h2⟩ := h
        simp only []
        have hne : (r == runeError && (w' + 1 == 1)) = false := by
          cases hx : (r == runeError && (w' + 1 == 1)) with
          | false => rfl
          | true => rw [hx] at h1; simp at h1
        rw [hne]
        simp only [Bool.false_eq_true, if_false]
        exact pyUtf8ValidAux_of_runes sp fuel (s.drop (w' + 1)) (by simp; omega) h2

theorem pyUtf8Valid_of_valid (sp : Bool) (s : Bytes) (h : validUtf8 s = true) : pyUtf8Valid sp s = true :=
  pyUtf8ValidAux_of_runes sp s.length s (Nat.le_refl _) h

section forms
variable {c : ECfg} (ip : IsPrint)

theorem ppushes_none : PPushes c (flat (emit [78])) (fun _ r => r = .none) :=
  PPushes.one .none (by simpa [flat_emit] using parses_op 78 .pushNone rfl parseArg_78) (fun _ => rfl) (fun _ => rfl)

theorem ppushes_bool (b : Bool) : PPushes c (flat (encodeBool c b)) (fun _ r => r = .bool b) :=
  PPushes.one (.bool b) (parses_bool' c b) (fun _ => rfl) (fun _ => rfl)

theorem ppushes_int (i : Int) (hi : inInt64 i = true) : PPushes c (flat (encodeInt c i)) (fun _ r => r = .int i) :=
  PPushes.one (.int i) (parses_int c i hi) (fun _ => rfl) (fun _ => rfl)

theorem ppushes_long (i : Int) : PPushes c (flat (encodeLong i)) (fun _ r => r = .int i) :=
  PPushes.one (.int i) (parses_long i) (fun _ => rfl) (fun _ => rfl)

theorem ppushes_float (f : F64) (hf : c.proto ≥ 1 ∨ FloatTextOK f) : PPushes c (flat (encodeFloat c f)) (fun _ r => r = .float f) := by
  by_cases hp : c.proto ≥ 1
  · exact PPushes.one (.float f) (parses_float_bin c f hp) (fun _ => rfl) (fun _ => rfl)
  · exact PPushes.one (.float f) (parses_float_txt c f hp (hf.resolve_left hp)) (fun _ => rfl) (fun _ => rfl)

theorem pexec_pushStr (s : Bytes) (hv : validUtf8 s = true) (st : PState) : pexec (.pushStr s) st = .ok (ppush st (.str s)) := by
  simp [pexec, pyStr, pyUtf8Valid_of_valid true s hv, bind, Except.bind, pure, Except.pure]

theorem ppushes_unicode (s : Bytes) (hv : validUtf8 s = true) (hl : s.length < 2 ^ 32) (he : (encodeUnicode c s).err = none) :
    PPushes c (flat (encodeUnicode c s)) (fun _ r => r = .str s) := by
  by_cases hp : c.proto ≥ 1
  · exact PPushes.one (.str s) (parses_unicode_bin c s hp hl) (pexec_pushStr s hv) (fun _ => rfl)
  · exact PPushes.one (.str s) (parses_unicode_txt c s hp he) (pexec_pushStr s hv) (fun _ => rfl)

theorem ppushes_bytestring (hip : ip 10 = false) (s : Bytes) (hl : s.length < 2 ^ 32) :
    PPushes c (flat (encodeByteString ip c s)) (fun _ r => r = .str2 s) := by
  by_cases hp : c.proto ≥ 1
  · exact PPushes.one (.str2 s) (parses_bytestring_bin ip c s hp hl) (fun _ => rfl) (fun _ => rfl)
  · exact PPushes.one (.str2 s) (parses_bytestring_txt ip hip c s hp) (fun _ => rfl) (fun _ => rfl)

/-- What a Go `string` needs to be for CPython: valid UTF-8 where it is written as unicode. -/
def strOK (c : ECfg) (s : Bytes) : Bool := decide (s.length < 2 ^ 32) && (!(decide (c.su ∨ c.proto ≥ 3)) || validUtf8 s)

theorem ppushes_string (hip : ip 10 = false) (s : Bytes) (hs : strOK c s = true) (he : (encodeString ip c s).err = none) :
    PPushes c (flat (encodeString ip c s)) (fun _ r => r = pyStrOf c s) := by
  unfold strOK at hs
  simp only [Bool.and_eq_true, decide_eq_true_eq, Bool.or_eq_true, Bool.not_eq_true', decide_eq_false_iff_not] at hs
  unfold encodeString pyStrOf at *
  split
  · rename_i h
    simp only [h, if_true] at he
    exact ppushes_unicode s (hs.2.resolve_left (fun hn => hn h)) hs.1 he
  · exact ppushes_bytestring ip hip s hs.1

end forms

end Ogorek
