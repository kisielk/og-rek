import Ogorek.Props.C19
import Ogorek.Encoder

namespace Ogorek

theorem encodeInt_parse (c : ECfg) (i : Int) (hi : inInt64 i = true) (t : Bytes) :
    (encodeInt c i).err = none ∧
    parseInsn ((encodeInt c i).chunks.flatten ++ t) = .ok (.pushInt i, t) := by
  unfold encodeInt
  by_cases h8 : c.proto ≥ 1 ∧ 0 ≤ i ∧ i ≤ 255
  · rw [if_pos h8]
    obtain ⟨_, h0, h1⟩ := h8
    refine ⟨rfl, ?_⟩
    have hb : (UInt8.ofNat i.toNat).toNat = i.toNat := UInt8.toNat_ofNat_of_lt' (show i.toNat < 256 by omega)
    simp [emit, parseInsn, Rd.bind, readByte, parseArg_75, Rd.map, Rd.pure, hb]
    exact Int.max_eq_left h0
  by_cases h16 : c.proto ≥ 1 ∧ 0 ≤ i ∧ i ≤ 65535
  · rw [if_neg h8, if_pos h16]
    obtain ⟨_, h0, h1⟩ := h16
    refine ⟨rfl, ?_⟩
    have hlo : (UInt8.ofNat (i.toNat % 256)).toNat = i.toNat % 256 :=
      UInt8.toNat_ofNat_of_lt' (Nat.mod_lt _ (by decide))
    have hhi : (UInt8.ofNat (i.toNat / 256)).toNat = i.toNat / 256 :=
      UInt8.toNat_ofNat_of_lt' (Nat.div_lt_of_lt_mul (show i.toNat < 256 * 256 by omega))
    simp [emit, parseInsn, Rd.bind, readByte, parseArg_77, Rd.map, Rd.pure, readFull, leNat, hlo, hhi]
    rw [Int.max_eq_left h0, Int.emod_add_mul_ediv]
  by_cases h32 : c.proto ≥ 1 ∧ -(2 : Int) ^ 31 ≤ i ∧ i ≤ (2 : Int) ^ 31 - 1
  · rw [if_neg h8, if_neg h16, if_pos h32]
    obtain ⟨_, h0, h1⟩ := h32
    refine ⟨rfl, ?_⟩
    simp only [emit, List.flatten_cons, List.flatten_nil, List.append_nil, le4]
    rw [List.cons_append, parseInsn_of parseArg_74 (Rd.map_ok _ (readFull_exact 4 _ t (natLE_length 4 _))),
      toSigned_ofSigned_32 i h0 h1]
  · rw [if_neg h8, if_neg h16, if_neg h32]
    refine ⟨rfl, ?_⟩
    have : ((emit (73 :: fmtInt i ++ [10])).chunks.flatten ++ t) = 73 :: (fmtInt i ++ 10 :: t) := by
      simp [emit]
    rw [this]
    refine parseInsn_of parseArg_73 (Rd.mapE_ok (readLine_line _ _ (fmtInt_no_lf i)) ?_)
    rw [parseIntArg_fmtInt, hi]
    rfl

end Ogorek
