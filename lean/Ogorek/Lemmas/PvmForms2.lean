import Ogorek.Lemmas.PvmForms

/-! The composite forms of the encoder on the Python machine: globals, tuples, REDUCE, bytes, bytearray. -/
namespace Ogorek

section forms
variable {c : ECfg} (ip : IsPrint)

/-- CPython decodes a module / class name as UTF-8. -/
def nameOK (s : Bytes) : Bool := decide (s.length < 2 ^ 32) && validUtf8 s

theorem ppushes_class (hip : ip 10 = false) (m n : Bytes) (hm : nameOK m = true) (hn : nameOK n = true)
    (he : (encodeClass ip c m n).err = none) :
    PPushes c (flat (encodeClass ip c m n)) (fun _ r => r = .glob m n) := by
  simp only [nameOK, Bool.and_eq_true, decide_eq_true_eq] at hm hn
  by_cases h4 : c.proto ≥ 4
  · have e : encodeClass ip c m n = encodeString ip c m +> encodeString ip c n +> emit [0x93] := by
      simp [encodeClass, h4]
    rw [e] at he ⊢
    obtain ⟨h12, _⟩ := seq_err_none he
    obtain ⟨h1, h2⟩ := seq_err_none h12
    rw [flat_seq _ _ h12, flat_seq _ _ h1, flat_emit]
    have hsm : strOK c m = true := by simp [strOK, hm.1, hm.2]
    have hsn : strOK c n = true := by simp [strOK, hn.1, hn.2]
    have hu : (c.su ∨ c.proto ≥ 3) := Or.inr (by omega)
    have pm := ppushes_string (c := c) ip hip m hsm h1
    have pn := ppushes_string (c := c) ip hip n hsn h2
    refine PRuns.snoc (PRuns.seq pm pn) (parses_op 0x93 .stackGlobal rfl parseArg_147) ?_
    intro st st2 _ _ ⟨st1, _, _, ⟨a, ha, ea⟩, ⟨b, hb, eb⟩⟩
    simp only [pyStrOf, hu, if_true] at ea eb
    subst ea; subst eb
    have hst : st2.stack = .str n :: .str m :: st.stack := by rw [hb, ha]
    refine ⟨{ st2 with stack := .glob m n :: st.stack }, ?_, .of_heap_eq rfl rfl rfl rfl, .glob m n, rfl, rfl⟩
    simp [pexec, hst, pyUtf8Valid_of_valid false m hm.2, pyUtf8Valid_of_valid false n hn.2]
  · refine PPushes.one (.glob m n) (parses_class_global ip c m n h4 he) (fun st => ?_) (fun _ => rfl)
    simp [pexec, pyUtf8Valid_of_valid false m hm.2, pyUtf8Valid_of_valid false n hn.2]

theorem ppushes_tupleOf (l : Nat) (items : Out) (PL : List PObj → List PyVal → Prop)
    (he : items.err = none) (hl0 : l = 0 → flat items = [])
    (hi : PPushesN c (flat items) l PL) :
    PPushes c (flat (encodeTupleOf c l items)) (fun h r => ∃ rs, r = .tuple rs ∧ PL h rs) := by
  unfold encodeTupleOf
  split
  · rename_i h
    rw [flat_seq _ _ he, flat_emit]
    refine PRuns.snoc hi (parses_tuple123 l h.2.1 h.2.2) ?_
    intro st st' _ _ ⟨rs, hst, hlen, hPL⟩
    exact ⟨{ st' with stack := .tuple rs :: st.stack }, pexec_tupleN hst hlen, .of_heap_eq rfl rfl rfl rfl, .tuple rs, rfl,
      rs, rfl, hPL⟩
  · split
    · rename_i h
      obtain ⟨_, rfl⟩ := h
      rw [flat_emit]
      obtain ⟨is, hp, _, hr⟩ := hi
      rw [hl0 rfl] at hp
      have := parses_nil_eq hp; subst this
      refine PRuns.one (parses_op 41 .emptyTuple rfl parseArg_41) fun st hpo => ?_
      obtain ⟨st', e, _, rs, _, hlen, hPL⟩ := hr st hpo
      simp [prunFrom] at e; subst e
      have : rs = [] := List.length_eq_zero_iff.mp hlen
      subst this
      exact ⟨ppush st (.tuple []), by simp [pexec], PFrame.push st _, .tuple [], rfl, [], rfl, by simpa [ppush] using hPL⟩
    · have h1 : (emit [40] +> items).err = none := by simp [Out.seq, emit, he]
      rw [flat_seq _ _ h1, flat_seq _ _ (by simp [emit]), flat_emit, flat_emit]
      refine PRuns.marked hi (parses_op 116 .tuple rfl parseArg_116) ?_
      intro st st1 rs _ f1 hs hlen hPL
      have hme : st1.metas = st.stack :: st.metas := f1.metas
      refine ⟨{ st1 with stack := .tuple rs :: st.stack, metas := st.metas }, ?_, f1.memo, f1.proto, rfl, ?_, .tuple rs, rfl, rs, rfl, hPL⟩
      · simp [pexec, popMark, hme, hs, ppush, bind, Except.bind, pure, Except.pure]
      · simpa using f1.heap

theorem ppushes_reduce (m n : Bytes) (clsOut argsOut : Out) (PL : List PObj → List PyVal → Prop)
    (R : List PObj → PyVal → Prop)
    (h1 : clsOut.err = none) (h2 : argsOut.err = none)
    (hc : PPushes c (flat clsOut) (fun _ r => r = .glob m n))
    (ha : PPushes c (flat argsOut) (fun h r => ∃ rs, r = .tuple rs ∧ PL h rs))
    (hred : ∀ (st : PState) rs, PProtoOK c st → PL st.heap rs →
      ∃ t v, pyCall st (.glob m n) rs = .ok ({ st with heap := st.heap ++ t }, v) ∧ R (st.heap ++ t) v) :
    PPushes c (flat (clsOut +> argsOut +> emit [82])) R := by
  have h12 : (clsOut +> argsOut).err = none := by simp [Out.seq, h1, h2]
  rw [flat_seq _ _ h12, flat_seq _ _ h1, flat_emit]
  refine PRuns.snoc (PRuns.seq hc ha) (parses_op 82 .reduce rfl parseArg_82) ?_
  intro st st2 hpo f ⟨st1, _, _, ⟨a, ha', ea⟩, ⟨b, hb, rs, eb, hPL⟩⟩
  subst ea; subst eb
  have hst : st2.stack = .tuple rs :: .glob m n :: st.stack := by rw [hb, ha']
  obtain ⟨t, v, hv, hR⟩ := hred st2 rs (hpo.frame f) hPL
  refine ⟨{ st2 with heap := st2.heap ++ t, stack := v :: st.stack }, ?_, ⟨rfl, rfl, rfl, t, rfl⟩, v, rfl, hR⟩
  simp [pexec, hst, pyArgs, hv, bind, Except.bind, pure, Except.pure]

theorem pyLatin1Encode_latin1 (d : Bytes) : pyLatin1Encode (latin1ToUtf8 d) = some d := by
  have h := decodeLatin1Bytes_latin1 d
  unfold decodeLatin1Bytes at h
  unfold pyLatin1Encode
  simp only [] at h ⊢
  by_cases hall : ((runes (latin1ToUtf8 d)).all fun x => decide (x.1 < 0x100)) = true
  · have hall' : ((runes (latin1ToUtf8 d)).all fun (x : Nat × Nat) => decide (x.1 < 0x100) && !(x.1 == runeError && x.2 == 1)) = true := by
      rw [List.all_eq_true] at hall ⊢
      intro x hx
      have := hall x hx
      simp only [decide_eq_true_eq] at this
      have hne : (x.1 == runeError) = false := by
        simp [runeError]; omega
      simp [this, hne]
    simp only [hall, if_true] at h
    simp only [hall', if_true]
    exact h
  · simp [hall] at h

theorem validUtf8_latin1 (d : Bytes) : validUtf8 (latin1ToUtf8 d) = true := by
  have h := pyLatin1Encode_latin1 d
  unfold pyLatin1Encode at h
  simp only [] at h
  split at h
  · rename_i hall
    unfold validUtf8
    rw [List.all_eq_true] at hall ⊢
    intro x hx
    have := hall x hx
    simp only [Bool.and_eq_true] at this
    exact this.2
  · cases h

theorem pyExecModule_ne_codecs (p : Nat) : (pyExecModule p == sb "_codecs") = false := by
  unfold pyExecModule
  split
  · exact builtin_ne_codecs.1
  · exact builtin_ne_codecs.2

theorem ppushes_bytes (hip : ip 10 = false) (s : Bytes) (hl : s.length < 2 ^ 31)
    (he : (encodeBytes ip c s).err = none) :
    PPushes c (flat (encodeBytes ip c s)) (fun _ r => r = .bytes s) := by
  by_cases h3 : c.proto ≥ 3
  · exact PPushes.one (.bytes s) (parses_bytes_hi ip c s h3 (by omega)) (fun _ => rfl) (fun _ => rfl)
  · have e : encodeBytes ip c s = encodeClass ip c (sb "_codecs") (sb "encode")
        +> encodeTupleOf c 2 (encodeUnicode c (latin1ToUtf8 s) +> encodeByteString ip c (sb "latin1")) +> emit [82] := by
      simp [encodeBytes, h3, latin1ToUtf8]
    rw [e] at he ⊢
    obtain ⟨h12, _⟩ := seq_err_none he
    obtain ⟨hce, hte⟩ := seq_err_none h12
    have hie := encodeTupleOf_err_inv 2 _ (by omega) hte
    obtain ⟨hue, hbe⟩ := seq_err_none hie
    have hul : (latin1ToUtf8 s).length < 2 ^ 32 := by have := latin1ToUtf8_length_le s; omega
    have hu := ppushes_unicode (c := c) (latin1ToUtf8 s) (validUtf8_latin1 s) hul hue
    have hb := ppushes_bytestring (c := c) ip hip (sb "latin1") (by rw [sb_latin1]; decide)
    have hitems : PPushesN c (flat (encodeUnicode c (latin1ToUtf8 s) +> encodeByteString ip c (sb "latin1"))) 2
        (fun _ rs => rs = [.str (latin1ToUtf8 s), .str2 (sb "latin1")]) := by
      rw [flat_seq _ _ hue]
      refine PRuns.weaken (PRuns.seq hu hb) ?_
      intro st st' _ _ ⟨st1, _, _, ⟨a, ha, pa⟩, ⟨b, hb', pb⟩⟩
      subst pa; subst pb
      exact ⟨_, by simp [hb', ha], rfl, rfl⟩
    have htup := ppushes_tupleOf (c := c) 2 _ _ hie (by omega) hitems
    refine ppushes_reduce (sb "_codecs") (sb "encode") _ _ _ _ hce hte
      (ppushes_class ip hip _ _ (by rw [sb_codecs]; decide) (by rw [sb_encode]; decide) hce) htup ?_
    intro st rs _ hrs
    subst hrs
    refine ⟨[], .bytes s, ?_, rfl⟩
    have hn : isLatin1Name (sb "latin1") = true := by simp only [isLatin1Name, beq_self_eq_true, Bool.true_or]
    have ha : isAscii (sb "latin1") = true := by rw [sb_latin1]; decide
    have hc1 : (sb "_codecs" == sb "_codecs" && sb "encode" == sb "encode") = true := by simp only [beq_self_eq_true, Bool.and_self]
    simp only [pyCall, pyCallGlob, hc1, if_true, pyCodecsEncode, pyTextOf, ha, hn, pyLatin1Encode_latin1, List.append_nil]

theorem ppushes_bytearray (hip : ip 10 = false) (s : Bytes) (hl : s.length < 2 ^ 31)
    (he : (encodeByteArray ip c s).err = none) :
    PPushes c (flat (encodeByteArray ip c s)) (fun h r => ∃ id, r = .obj id ∧ h[id]? = some (.bytearray s)) := by
  by_cases h5 : c.proto ≥ 5
  · refine PRuns.one (parses_bytearray_hi ip c s h5 (by omega)) fun st _ => ?_
    refine ⟨ppush { st with heap := st.heap ++ [.bytearray s] } (.obj st.heap.length), ?_, ⟨rfl, rfl, rfl, [.bytearray s], by simp [ppush]⟩,
      .obj st.heap.length, rfl, st.heap.length, rfl, by simp [ppush]⟩
    simp [pexec, palloc]
  · have e : encodeByteArray ip c s = encodeClass ip c (pybuiltinModuleE c.proto) (sb "bytearray")
        +> encodeTupleOf c 1 (encodeBytes ip c s) +> emit [82] := by
      simp [encodeByteArray, h5]
    rw [e] at he ⊢
    obtain ⟨h12, _⟩ := seq_err_none he
    obtain ⟨hce, hte⟩ := seq_err_none h12
    have hbe := encodeTupleOf_err_inv 1 _ (by omega) hte
    have hitems : PPushesN c (flat (encodeBytes ip c s)) 1 (fun _ rs => rs = [.bytes s]) := by
      refine PRuns.weaken (ppushes_bytes ip hip s hl hbe) ?_
      intro st st' _ _ ⟨r, hs, hr⟩
      subst hr
      exact ⟨[.bytes s], by simpa using hs, rfl, rfl⟩
    have htup := ppushes_tupleOf (c := c) 1 _ _ hbe (by omega) hitems
    have hname : nameOK (pybuiltinModuleE c.proto) = true := by
      unfold pybuiltinModuleE
      rw [sb_builtin2, sb_builtins]
      split <;> decide
    refine ppushes_reduce (pybuiltinModuleE c.proto) (sb "bytearray") _ _ _ _ hce hte
      (ppushes_class ip hip _ _ hname (by rw [sb_bytearray]; decide) hce) htup ?_
    intro st rs hpo hrs
    subst hrs
    refine ⟨[.bytearray s], .obj st.heap.length, ?_, st.heap.length, rfl, by simp⟩
    unfold PProtoOK at hpo
    simp only [pyCall, pyCallGlob, ← hpo, pyExecModule_ne_codecs, bytearray_ne_bytes, beq_self_eq_true, Bool.false_and, Bool.and_false, Bool.and_self,
      Bool.false_eq_true, if_false, if_true, pyBytearrayOf, palloc]

theorem pyExecModule_cases (p : Nat) : pyExecModule p = sb "__builtin__" ∨ pyExecModule p = sb "builtins" := by
  unfold pyExecModule; split
  · exact .inl rfl
  · exact .inr rfl

/-- The heap is written `st.heap ++ []` to fit `hred` of `ppushes_reduce`, where a call may allocate. -/
theorem pyCall_symbolic (st : PState) (m n : Bytes) (rs : List PyVal) (h : reservedCall m n = false) :
    pyCall st (.glob m n) rs = .ok ({ st with heap := st.heap ++ [] }, .call (.glob m n) rs) := by
  obtain ⟨hc, hb⟩ := Bool.or_eq_false_iff.mp h
  have hx : (m == pyExecModule st.proto && n == sb "bytes") = false ∧
      (m == pyExecModule st.proto && n == sb "bytearray") = false := by
    cases hm : m == pyExecModule st.proto
    · exact ⟨rfl, rfl⟩
    · have hm' : (m == sb "__builtin__" || m == sb "builtins") = true := by
        rcases pyExecModule_cases st.proto with e | e <;>
          simp only [eq_of_beq hm, e, beq_self_eq_true, Bool.true_or, Bool.or_true]
      rw [hm', Bool.true_and] at hb
      exact Bool.or_eq_false_iff.mp hb
  simp only [pyCall, pyCallGlob, hc, hx.1, hx.2, Bool.false_eq_true, if_false, List.append_nil]

end forms

end Ogorek
