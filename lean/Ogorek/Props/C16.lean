import Ogorek.Lemmas.WFLemmas
import Ogorek.Lemmas.Step
import Ogorek.Lemmas.Loop

/-!
  C16 — Results contain only documented types, consistent with the decoder mode.

  `Inv` (Ogorek/WF.lean): every stack entry is the mark or a well-formed value, the memo, the
  heap containers and the arguments handed to `PersistentLoad` hold well-formed values only
  (no mark, no undocumented constructor, ByteString only with StrictUnicode, heap containers
  of the kind the PyDict setting asks for).  Every instruction keeps it.
-/
namespace Ogorek

/-- The application's `PersistentLoad` returns application objects. -/
def HookOK (c : Cfg) (hook : Hook) : Prop :=
  ∀ load, hook = some load → ∀ i r v, load i r = .replace v → ∀ hl, wfVal c true hl v = true

def RdP (P : α → Prop) (r : Rd α) : Prop := ∀ inp a rest, r inp = .ok (a, rest) → P a

/-- Everything the parse layer produces for the integer opcodes fits int64. -/
theorem parseArg_insnOK (key : UInt8) : RdP InsnOK (parseArg key) := by
  intro inp a rest h
  have := parseArg_res key inp
  rw [h] at this
  exact this


theorem handleCall_wf {c : Cfg} {u : Bool} {hl proto : Nat} {m n : Bytes} {args : List GoVal} {v : GoVal}
    (h : handleCall proto m n args = some (.ok v)) : wfVal c u hl v = true := by
  rcases handleCall_some _ h with h | ⟨d, h | h⟩ <;> cases h <;> simp [wfVal]

theorem Inv.tail {mc : MCfg} {u : Bool} {st : DState} {v : GoVal} {s : List GoVal} (hinv : Inv mc u st)
    (hs : st.stack = v :: s) : Inv mc u { st with stack := s } ∧ wfItem mc.cfg u st.heap.length v = true :=
  ⟨hinv.withStack s fun x hx => hinv.stack x (hs ▸ List.mem_cons_of_mem _ hx), hinv.stack v (hs ▸ List.mem_cons_self)⟩

theorem Inv.marked {mc : MCfg} {u : Bool} {st : DState} {above below : List GoVal} (hinv : Inv mc u st)
    (hs : splitAtMark st.stack = some (above, below)) :
    (∀ y ∈ above.reverse, wfVal mc.cfg u st.heap.length y = true) ∧
      (∀ x ∈ below, wfItem mc.cfg u st.heap.length x = true) := by
  obtain ⟨h1, h2⟩ := splitAtMark_spec _ _ _ hs
  exact ⟨fun y hy => wfVal_of_wfItem (hinv.stack y (h1 y (List.mem_reverse.mp hy)).2) (h1 y (List.mem_reverse.mp hy)).1,
    fun x hx => hinv.stack x (h2 x hx)⟩

theorem Inv.withNbig {mc : MCfg} {u : Bool} {st : DState} (hinv : Inv mc u st) (n : Nat) :
    Inv mc u { st with nbig := n } := ⟨hinv.stack, hinv.memo, hinv.heap, hinv.calls⟩

theorem Inv.withProto {mc : MCfg} {u : Bool} {st : DState} (hinv : Inv mc u st) (n : Nat) :
    Inv mc u { st with proto := n } := ⟨hinv.stack, hinv.memo, hinv.heap, hinv.calls⟩

theorem Inv.memoPut {mc : MCfg} {u : Bool} {st : DState} (hinv : Inv mc u st) (key : Bytes) (v : GoVal)
    (hv : wfVal mc.cfg u st.heap.length v = true) : Inv mc u (memoPut st key v) := by
  refine ⟨hinv.stack, ?_, hinv.heap, hinv.calls⟩
  intro kv hkv
  rcases List.mem_cons.mp hkv with rfl | hkv
  · exact hv
  · exact hinv.memo kv (List.mem_filter.mp hkv).1

theorem Inv.allocTop {mc : MCfg} {u : Bool} {st : DState} (hinv : Inv mc u st) {o : HObj} {s : List GoVal}
    (ho : wfObj mc u st.heap.length o = true) (hs : ∀ x ∈ s, wfItem mc.cfg u st.heap.length x = true) :
    Inv mc u { (allocObj st o).1 with stack := (allocObj st o).2 :: s } := by
  obtain ⟨hi1, hw, hl1, _⟩ := hinv.alloc o (wfObj_mono _ _ (Nat.le_succ _) o ho)
  refine hi1.withStack _ fun x hx => ?_
  rcases List.mem_cons.mp hx with rfl | hx
  · exact wfItem_of_wfVal hw
  · exact wfItem_mono _ _ (hl1 ▸ Nat.le_succ _) _ (hs x hx)

theorem mkList_stack (mc : MCfg) (st : DState) (xs : List GoVal) : (mkList mc st xs).1.stack = st.stack := by
  unfold mkList; split <;> rfl

theorem Inv.mkListTop {mc : MCfg} {u : Bool} {st : DState} (hinv : Inv mc u st) {xs s : List GoVal}
    (hxs : ∀ x ∈ xs, wfVal mc.cfg u st.heap.length x = true) (hs : ∀ x ∈ s, wfItem mc.cfg u st.heap.length x = true) :
    Inv mc u { (mkList mc st xs).1 with stack := (mkList mc st xs).2 :: s } := by
  unfold mkList
  split
  · rename_i hlr
    exact hinv.allocTop (by simpa [wfObj, hlr] using hxs) hs
  · refine hinv.withStack _ fun x hx => ?_
    rcases List.mem_cons.mp hx with rfl | hx
    · exact wfItem_of_wfVal (by simpa using hxs)
    · exact hs x hx

theorem wfObj_kvs {mc : MCfg} {u : Bool} {hl : Nat} {o : HObj} {es : Entries} (hw : wfObj mc u hl o = true)
    (hes : ∀ kv ∈ es, kv ∈ o.kvs ∨ (wfVal mc.cfg u hl kv.1 = true ∧ wfVal mc.cfg u hl kv.2 = true)) :
    wfObj mc u hl { o with kvs := es } = true := by
  unfold wfObj at hw ⊢
  simp only [Bool.and_eq_true, List.all_eq_true] at hw ⊢
  refine ⟨⟨hw.1.1, fun kv hkv => ?_⟩, hw.2⟩
  rcases hes kv hkv with h | h
  · exact hw.1.2 kv h
  · exact h

theorem handleRef_inv {mc : MCfg} {hook : Hook} {st st' : DState} {r : GoVal}
    (hh : HookOK mc.cfg hook) (hinv : Inv mc hook.isSome st)
    (hr : wfVal mc.cfg hook.isSome st.heap.length r = true)
    (h : handleRef hook st r = .ok st') : Inv mc hook.isSome st' := by
  unfold handleRef at h
  split at h
  · cases h
    exact hinv.push _ (wfItem_of_wfVal hr)
  · rename_i load
    dsimp only at h
    have hinv' : Inv mc (some load).isSome { st with calls := r :: st.calls } :=
      ⟨hinv.stack, hinv.memo, hinv.heap, fun x hx => by
        rcases List.mem_cons.mp hx with rfl | hx
        · exact hr
        · exact hinv.calls x hx⟩
    split at h
    · rename_i v hv
      cases h
      exact hinv'.push _ (wfItem_of_wfVal (hh load rfl _ _ _ hv _))
    · cases h
      exact hinv'.push _ (wfItem_of_wfVal hr)
    · cases h

theorem listAppend_inv {mc : MCfg} {u : Bool} {st st' : DState} {l l' : GoVal} {items s : List GoVal}
    (hinv : Inv mc u st) (hl : wfItem mc.cfg u st.heap.length l = true)
    (hi : ∀ x ∈ items, wfVal mc.cfg u st.heap.length x = true)
    (hs : ∀ x ∈ s, wfItem mc.cfg u st.heap.length x = true)
    (h : listAppend st l items = some (st', l')) : Inv mc u { st' with stack := l' :: s } := by
  unfold listAppend at h
  split at h
  · rename_i xs
    cases h
    refine hinv.withStack _ fun x hx => ?_
    rcases List.mem_cons.mp hx with rfl | hx
    · simp only [wfItem, isMark, Bool.false_or, wfVal_list, List.all_append, Bool.and_eq_true, List.all_eq_true] at hl ⊢
      exact ⟨hl, hi⟩
    · exact hs x hx
  · rename_i id
    split at h
    · rename_i o ho
      split at h
      · cases h
        have hw := heap_get_wf hinv ho
        refine (hinv.heapSet id _ ?_).withStack _ fun x hx => ?_
        · unfold wfObj at hw ⊢
          simp only [Bool.and_eq_true, List.all_eq_true, List.all_append] at hw ⊢
          exact ⟨hw.1, hw.2, hi⟩
        · show wfItem mc.cfg u (st.heap.set id _).length x = true
          rw [List.length_set]
          rcases List.mem_cons.mp hx with rfl | hx
          · exact hl
          · exact hs x hx
      · cases h
    · cases h
  · cases h

theorem lookup_mem {k : Bytes} {v : GoVal} : ∀ {l : List (Bytes × GoVal)}, l.lookup k = some v → (k, v) ∈ l
  | (k', v') :: l, h => by
    simp only [List.lookup] at h
    split at h
    · rename_i heq
      cases h
      rw [eq_of_beq heq]
      exact List.mem_cons_self
    · exact List.mem_cons_of_mem _ (lookup_mem h)

/-- **C16 (step).** One instruction preserves the invariant (`InsnOK`: an integer argument fits int64, as the parse
    layer guarantees). -/
theorem C16_step_preserves (mc : MCfg) (hook : Hook) (i : Insn) (pos : Nat) (st st' : DState)
    (hi : InsnOK i) (hh : HookOK mc.cfg hook) (hinv : Inv mc hook.isSome st)
    (h : exec mc hook i pos st = .ok st') : Inv mc hook.isSome st' := by
  cases exec_step h with
  | stop | frame => exact hinv
  | mark => exact hinv.push _ rfl
  | pushFloat | pushBool | pushNone | pushStr | pushBytes | pushBytearray | global | emptyTuple =>
    exact hinv.push _ (by simp [wfItem, wfVal])
  | pushInt => exact hinv.push _ (wfItem_of_wfVal (by rw [wfVal]; exact hi))
  | pushBig => exact (hinv.withNbig _).push _ (by simp [wfItem, wfVal])
  | pushByteString => exact hinv.push _ (by split <;> simp_all [wfItem, wfVal])
  | pop hs => exact (hinv.tail hs).1
  | dup hs => exact hinv.push _ (hinv.tail hs).2
  | persid h => exact handleRef_inv hh hinv (by simp [wfVal]) h
  | binpersid hs hm h =>
    exact handleRef_inv hh (hinv.tail hs).1 (by simpa using wfVal_of_wfItem (hinv.tail hs).2 hm) h
  | reduce hs hc =>
    obtain ⟨hinv1, hargs⟩ := hinv.tail hs
    refine (hinv1.tail rfl).1.push _ (wfItem_of_wfVal ?_)
    rcases hc with hc | ⟨_, rfl⟩
    · exact handleCall_wf hc
    · simpa using wfVal_of_wfItem hargs rfl
  | append hs hm hla =>
    obtain ⟨hinv1, hv⟩ := hinv.tail hs
    obtain ⟨hinv2, hl⟩ := hinv1.tail rfl
    refine listAppend_inv hinv1 hl (fun x hx => ?_) hinv2.stack hla
    rw [List.mem_singleton.mp hx]
    exact wfVal_of_wfItem hv hm
  | appends hs hla =>
    obtain ⟨habove, hbelow⟩ := hinv.marked hs
    exact listAppend_inv hinv (hbelow _ List.mem_cons_self) habove (fun x hx => hbelow x (List.mem_cons_of_mem _ hx)) hla
  | dict hs ha =>
    obtain ⟨habove, hbelow⟩ := hinv.marked hs
    refine hinv.allocTop ?_ hbelow
    simp only [wfObj, beq_self_eq_true, Bool.true_or, List.all_nil, Bool.and_true, Bool.true_and, List.all_eq_true,
      Bool.and_eq_true]
    intro kv hkv
    rcases assignAll_mem _ _ _ _ ha kv hkv with hm | ⟨hk, hv⟩
    · cases hm
    · exact ⟨habove _ hk, habove _ hv⟩
  | emptyDict => exact hinv.allocTop (by simp [wfObj]) hinv.stack
  | list hs => exact hinv.mkListTop (hinv.marked hs).1 (hinv.marked hs).2
  | emptyList => exact hinv.mkListTop (by simp) fun x hx => hinv.stack x (mkList_stack mc st [] ▸ hx)
  | tuple hs =>
    refine hinv.withStack _ fun x hx => ?_
    rcases List.mem_cons.mp hx with rfl | hx
    · exact wfItem_of_wfVal (by simpa using (hinv.marked hs).1)
    · exact (hinv.marked hs).2 x hx
  | tupleN hm =>
    refine hinv.withStack _ fun x hx => ?_
    rcases List.mem_cons.mp hx with rfl | hx
    · refine wfItem_of_wfVal ?_
      simp only [wfVal_tuple, List.all_eq_true, List.mem_reverse]
      exact fun y hy => wfVal_of_wfItem (hinv.stack y (List.mem_of_mem_take hy)) (hm y hy)
    · exact hinv.stack x (List.mem_of_mem_drop hx)
  | get hg => exact hinv.push _ (wfItem_of_wfVal (hinv.memo _ (lookup_mem hg)))
  | put hs hm | memoize hs hm => exact hinv.memoPut _ _ (wfVal_of_wfItem (hinv.tail hs).2 hm)
  | stackGlobal hs => exact ((hinv.tail hs).1.tail rfl).1.push _ (by simp [wfItem, wfVal])
  | proto => exact hinv.withProto _
  | setitem hs hk hv ho _ ha =>
    obtain ⟨hinv1, hwv⟩ := hinv.tail hs
    obtain ⟨hinv2, hwk⟩ := hinv1.tail rfl
    refine hinv2.heapSet _ _ (wfObj_kvs (heap_get_wf hinv ho) fun kv hkv => ?_)
    rcases tryAssign_mem ha hkv with hm | rfl
    · exact .inl hm
    · exact .inr ⟨wfVal_of_wfItem hwk hk, wfVal_of_wfItem hwv hv⟩
  | setitems hs ho _ ha =>
    obtain ⟨habove, hbelow⟩ := hinv.marked hs
    refine (hinv.withStack _ hbelow).heapSet _ _ (wfObj_kvs (heap_get_wf hinv ho) fun kv hkv => ?_)
    rcases assignAll_mem _ _ _ _ ha kv hkv with hm | ⟨hk, hv⟩
    · exact .inl hm
    · exact .inr ⟨habove _ hk, habove _ hv⟩

theorem popUser_inv {mc : MCfg} {u : Bool} {st st' : DState} {v : GoVal} (hinv : Inv mc u st)
    (h : popUser st = .ok (v, st')) : Inv mc u st' ∧ wfVal mc.cfg u st'.heap.length v = true := by
  obtain ⟨s, hs, hm, rfl⟩ := popUser_ok h
  exact ⟨(hinv.tail hs).1, wfVal_of_wfItem (hinv.tail hs).2 hm⟩

theorem decodeLoop_inv (mc : MCfg) (hook : Hook) (hh : HookOK mc.cfg hook) :
    ∀ (fuel insn : Nat) (st : DState) (inp : Bytes) (v : GoVal) (st' : DState) (rest : Bytes),
      Inv mc hook.isSome st → decodeLoop mc hook fuel insn st inp = (.ok v, st', rest) →
      Inv mc hook.isSome st' ∧ wfVal mc.cfg hook.isSome st'.heap.length v = true := by
  intro fuel
  induction fuel with
  | zero => intro insn st inp v st' rest _ h; cases h
  | succ fuel ih =>
    intro insn st inp v st' rest hinv h
    obtain ⟨key, r, i, rest', rfl, hp, ⟨rfl, hu, _⟩ | ⟨_, st1, he, hl⟩⟩ := decodeLoop_ok_inv h
    · exact popUser_inv hinv hu
    · exact ih _ _ _ _ _ _ (C16_step_preserves mc hook _ _ _ _ (parseArg_insnOK key _ _ _ hp) hh hinv he) hl

/-- **C16 (result).** After a successful `Decode` from a state satisfying the invariant
    (the fresh decoder does), the result is a well-formed value — in particular not the mark and
    not containing it — and the invariant holds again, so it holds across a stream of pickles. -/
theorem C16_result_wf (mc : MCfg) (hook : Hook) (hh : HookOK mc.cfg hook) (st : DState) (inp : Bytes)
    (v : GoVal) (st' : DState) (rest : Bytes) (hinv : Inv mc hook.isSome st)
    (h : decode mc hook st inp = (.ok v, st', rest)) :
    Inv mc hook.isSome st' ∧ wfVal mc.cfg hook.isSome st'.heap.length v = true := by
  unfold decode at h
  exact decodeLoop_inv mc hook hh _ _ _ _ _ _ _
    ((hinv.withStack [] (by simp)).withProto 0) h

theorem Inv.init (mc : MCfg) (u : Bool) : Inv mc u {} :=
  ⟨by simp, by simp, by simp, by simp⟩

/-- **C16 (hook arguments).** Every Ref handed to `PersistentLoad` holds a well-formed id. -/
theorem C16_hook_args_wf (mc : MCfg) (hook : Hook) (hh : HookOK mc.cfg hook) (inp : Bytes)
    (v : GoVal) (st' : DState) (rest : Bytes) (h : decode mc hook {} inp = (.ok v, st', rest)) :
    ∀ r ∈ st'.calls, wfVal mc.cfg hook.isSome st'.heap.length r = true :=
  (C16_result_wf mc hook hh {} inp v st' rest (Inv.init mc _) h).1.calls

theorem wfResList_of_forall {c : Cfg} {u : Bool} : ∀ {xs : List GoVal}, (∀ x ∈ xs, wfRes c u x = true) →
    wfResList c u xs = true
  | [], _ => by simp [wfResList]
  | x :: xs, h => by
    simp only [wfResList, Bool.and_eq_true]
    exact ⟨h x (by simp), wfResList_of_forall fun y hy => h y (by simp [hy])⟩

theorem wfResPairs_of_forall {c : Cfg} {u : Bool} : ∀ {kvs : List (GoVal × GoVal)},
    (∀ kv ∈ kvs, wfRes c u kv.1 = true ∧ wfRes c u kv.2 = true) → wfResPairs c u kvs = true
  | [], _ => by simp [wfResPairs]
  | (k, v) :: r, h => by
    simp only [wfResPairs, Bool.and_eq_true]
    exact ⟨⟨(h (k, v) (by simp)).1, (h (k, v) (by simp)).2⟩,
           wfResPairs_of_forall fun y hy => h y (by simp [hy])⟩

/-- **C16 (resolved).** Following heap references to any depth, what a successful Go `Decode`
    returns consists of documented types only: ByteString only with StrictUnicode, Dict only
    with PyDict, builtin maps only without, application objects only with a hook, never the mark. -/
theorem C16_resolved (c : Cfg) (u : Bool) (st : DState) (hinv : Inv (goCfg c) u st) :
    ∀ (fuel : Nat) (v : GoVal), wfVal c u st.heap.length v = true → wfRes c u (resolveV st.heap fuel v) = true := by
  intro fuel
  induction fuel with
  | zero => intro v _; simp [resolveV, wfRes]
  | succ f ih =>
    intro v hv
    cases v <;> simp only [resolveV]
    case list xs | tuple xs | call m n xs =>
      simp only [wfRes]
      apply wfResList_of_forall
      intro x hx
      obtain ⟨y, hy, rfl⟩ := List.mem_map.mp hx
      simp only [wfVal_list, wfVal_tuple, wfVal_call, List.all_eq_true] at hv
      exact ih y (hv y hy)
    case ref p =>
      simp only [wfRes]
      simp only [wfVal_ref] at hv
      exact ih p hv
    case href id =>
      split
      · simp [wfRes]
      · rename_i o ho
        have hw := heap_get_wf hinv ho
        unfold wfObj at hw
        simp only [Bool.and_eq_true, List.all_eq_true, goCfg, Bool.and_false, Bool.or_false] at hw
        obtain ⟨⟨hk, hkv⟩, hxs⟩ := hw
        have hpairs : wfResPairs c u (o.kvs.map fun kv => (resolveV st.heap f kv.1, resolveV st.heap f kv.2)) = true := by
          apply wfResPairs_of_forall
          intro kv hkv'
          obtain ⟨y, hy, rfl⟩ := List.mem_map.mp hkv'
          exact ⟨ih _ (hkv y hy).1, ih _ (hkv y hy).2⟩
        split
        · rename_i hkind
          rw [hkind] at hk
          simp [dictKind] at hk
          split at hk <;> simp at hk
        · rename_i hkind
          rw [hkind] at hk
          have hpd : c.pyDict = true := by
            simpa [dictKind] using hk
          simp [wfRes, hpd, hpairs]
        · rename_i hkind
          rw [hkind] at hk
          have hpd : c.pyDict = false := by
            simpa [dictKind] using hk
          simp [wfRes, hpd, hpairs]
    all_goals first | rfl | (simp [wfVal] at hv <;> exact hv)

end Ogorek
