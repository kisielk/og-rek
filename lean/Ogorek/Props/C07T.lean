import Ogorek.Props.C07R

/-!
  C07 (continued) — transitivity at the leaves.  Numbers: `equal` is transitive across all numeric
  representations (it is equality of exact values).  Strings: transitive whenever the MIDDLE value
  is not a ByteString — the one non-transitive case (finding K2) is exactly a ByteString between a
  `string` and a `Bytes`.
-/
namespace Ogorek

/-- **C07 (transitivity, strings).** Through a middle value that is not a ByteString (`kb ≠ 1`). -/
theorem strEq_trans (ka : Nat) (a : Bytes) (kb : Nat) (b : Bytes) (kc : Nat) (c : Bytes) (hb : kb ≠ 1)
    (h1 : strEq ka a kb b = true) (h2 : strEq kb b kc c = true) : strEq ka a kc c = true := by
  unfold strEq at *
  simp only [Bool.and_eq_true, Bool.or_eq_true, beq_iff_eq] at h1 h2 ⊢
  obtain ⟨k1, e1⟩ := h1
  obtain ⟨k2, e2⟩ := h2
  refine ⟨?_, e1.trans e2⟩
  rcases k1 with (k1 | k1) | k1
  · rcases k2 with (k2 | k2) | k2
    · left; left; exact k1.trans k2
    · exact absurd k2 hb
    · right; exact k2
  · left; right; exact k1
  · exact absurd k1 hb

mutual
/-- Go integer ranges hold everywhere inside (through lists too, unlike `keyWF`). -/
def rangeOK : GoVal → Bool
  | .int i => inInt64 i
  | .uint u => decide (u < 2 ^ 64)
  | .tuple xs => rangeOKList xs
  | .list xs => rangeOKList xs
  | .call _ _ args => rangeOKList args
  | .ref p => rangeOK p
  | _ => true
def rangeOKList : List GoVal → Bool
  | [] => true
  | x :: xs => rangeOK x && rangeOKList xs
end

mutual
def noBS : GoVal → Bool
  | .bytestr _ => false
  | .tuple xs => noBSList xs
  | .list xs => noBSList xs
  | .call _ _ args => noBSList args
  | .ref p => noBS p
  | _ => true
def noBSList : List GoVal → Bool
  | [] => true
  | x :: xs => noBS x && noBSList xs
end

theorem numWF_of_rangeOK {v : GoVal} {x : Num} (h : eqView v = .num x) (hw : rangeOK v = true) : NumWF x := by
  cases v <;> cases h <;> first | trivial | exact (of_decide_eq_true hw : _ < _)

theorem noBS_str {v : GoVal} {k : Nat} {s : Bytes} (h : eqView v = .str k s) (hn : noBS v = true) : k ≠ 1 := by
  cases v <;> cases h <;> first | decide | cases hn

/-- Transitivity for a first value without parts: all three values are then of its kind. -/
theorem viewEq_trans_leaf {u v w : EqView} (hl : u.isLeaf = true) (h1 : viewEq u v = true) (h2 : viewEq v w = true)
    (hs : ∀ k s, v = .str k s → k ≠ 1)
    (hn : ∀ x y z, u = .num x → v = .num y → w = .num z → NumWF x ∧ NumWF y ∧ NumWF z) : viewEq u w = true := by
  cases u <;> first | cases hl | skip
  all_goals cases v <;> first | cases h1 | skip
  all_goals cases w <;> first | cases h2 | skip
  · exact strEq_trans _ _ _ _ _ _ (hs _ _ rfl) h1 h2
  · obtain ⟨hx, hy, hz⟩ := hn _ _ _ rfl rfl rfl
    exact numEq_trans _ _ _ hx hy hz h1 h2
  · exact Atom.eq_iff.mpr ((Atom.eq_iff.mp h1).trans (Atom.eq_iff.mp h2))

theorem C07_trans_parts :
    PartsStep (fun a => ∀ b c, rangeOK a = true → rangeOK b = true → rangeOK c = true → noBS b = true →
      goEqual a b = true → goEqual b c = true → goEqual a c = true)
      (fun xs => ∀ ys zs, rangeOKList xs = true → rangeOKList ys = true → rangeOKList zs = true → noBSList ys = true →
      goEqualList xs ys = true → goEqualList ys zs = true → goEqualList xs zs = true) := by
  have seq : ∀ a xs, eqView a = .seq xs → rangeOK a = rangeOKList xs →
      (∀ ys zs : List GoVal, rangeOKList xs = true → rangeOKList ys = true → rangeOKList zs = true → noBSList ys = true →
        goEqualList xs ys = true → goEqualList ys zs = true → goEqualList xs zs = true) →
      ∀ b c, rangeOK a = true → rangeOK b = true → rangeOK c = true → noBS b = true →
        goEqual a b = true → goEqual b c = true → goEqual a c = true := by
    intro a xs ha hw ih b c wa wb wc nb h1 h2
    rw [hw] at wa
    obtain ⟨ys, rfl | rfl, l1⟩ := seq_of_goEqual ha h1 <;>
    obtain ⟨zs, rfl | rfl, l2⟩ := seq_of_goEqual rfl h2 <;>
    (rw [goEqual_view, ha]; exact ih ys zs wa wb wc nb l1 l2)
  refine ⟨fun xs => seq _ xs rfl rfl, fun xs => seq _ xs rfl rfl, ?_, ?_, ?_, ?_, ?_⟩
  · intro m n args ih b c wa wb wc nb h1 h2
    obtain ⟨ys, rfl, l1⟩ := call_of_goEqual h1
    obtain ⟨zs, rfl, l2⟩ := call_of_goEqual h2
    simp only [goEqual, beq_self_eq_true, Bool.true_and]
    exact ih ys zs wa wb wc nb l1 l2
  · intro p ih b c wa wb wc nb h1 h2
    obtain ⟨q, rfl, l1⟩ := ref_of_goEqual h1
    obtain ⟨r, rfl, l2⟩ := ref_of_goEqual h2
    exact ih q r wa wb wc nb l1 l2
  · intro a hl b c wa wb wc nb h1 h2
    rw [goEqual_view] at h1 h2 ⊢
    exact viewEq_trans_leaf hl h1 h2 (fun _ _ h => noBS_str h nb)
      (fun _ _ _ ha hb hc => ⟨numWF_of_rangeOK ha wa, numWF_of_rangeOK hb wb, numWF_of_rangeOK hc wc⟩)
  · intro ys zs _ _ _ _ h1 h2
    cases ys with
    | nil => exact h2
    | cons _ _ => cases h1
  · intro x xs ihx ihxs ys zs wa wb wc nb h1 h2
    cases ys with
    | nil => cases h1
    | cons y ys =>
      cases zs with
      | nil => cases h2
      | cons z zs =>
        simp only [goEqualList, rangeOKList, noBSList, Bool.and_eq_true] at wa wb wc nb h1 h2 ⊢
        exact ⟨ihx y z wa.1 wb.1 wc.1 nb.1 h1.1 h2.1, ihxs ys zs wa.2 wb.2 wc.2 nb.2 h1.2 h2.2⟩

/-- **C07 (transitivity).** `equal a b` and `equal b c` give `equal a c` whenever the middle value
    holds no ByteString — for all values, containers included. -/
theorem C07_trans : ∀ a b c : GoVal, rangeOK a = true → rangeOK b = true → rangeOK c = true → noBS b = true →
    goEqual a b = true → goEqual b c = true → goEqual a c = true := C07_trans_parts.val

theorem goEqualList_trans : ∀ xs ys zs : List GoVal, rangeOKList xs = true → rangeOKList ys = true →
    rangeOKList zs = true → noBSList ys = true →
    goEqualList xs ys = true → goEqualList ys zs = true → goEqualList xs zs = true := C07_trans_parts.lst

/-- **C08 (unique candidate).** Under the invariant, a query holding no ByteString has at most one
    stored key equal to it — the transitivity hypothesis of `C08_match_unique` discharged. -/
theorem C08_match_unique_noBS (es : Entries) (q : GoVal) (hinv : NoEqualKeys es) (hq : noBS q = true)
    (wq : rangeOK q = true) (wes : ∀ e ∈ es, rangeOK e.1 = true) : (matching es q).length ≤ 1 :=
  C08_match_unique es q hinv (fun e1 h1 e2 h2 g1 g2 =>
    C07_trans e1.1 q e2.1 (wes e1 h1) wq (wes e2 h2) hq (by rw [C07_symm]; exact g1) g2)

/-- **C08 (Get, most recent).** Right after `Set k v`, EVERY query equal to `k` that holds no
    ByteString returns `v`, whatever else is stored and whatever the table picks: the side condition
    of `C08_get_after_set` follows from transitivity through the query. (A ByteString query is K2.) -/
theorem C08_get_after_set_noBS (pick pick' : Entries → Nat) (es : Entries) (k v q : GoVal)
    (hq : goEqual q k = true) (nq : noBS q = true) (wq : rangeOK q = true) (wk : rangeOK k = true)
    (wes : ∀ e ∈ es, rangeOK e.1 = true) : tableGet pick' (dictSet pick es k v) q = some v := by
  rw [C08_set]
  refine C08_get_after_set pick' es k v q hq ?_
  intro e he hke
  cases hqe : goEqual q e.1 with
  | false => rfl
  | true =>
    have : goEqual k e.1 = true :=
      C07_trans k q e.1 wk wq (wes e he) nq (by rw [C07_symm]; exact hq) hqe
    rw [this] at hke; exact absurd hke (by simp)

/-- The K2 shape: through a ByteString in the middle, transitivity fails. -/
theorem strEq_not_trans : strEq 0 [97] 1 [97] = true ∧ strEq 1 [97] 2 [97] = true ∧ strEq 0 [97] 2 [97] = false := by
  decide

end Ogorek
