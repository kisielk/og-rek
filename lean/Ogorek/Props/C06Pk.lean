import Ogorek.Lemmas.PkInd
import Ogorek.Props.C01Pvm
import Ogorek.Props.C02Pk

/-!
  C06 on the programs CPython's pickler writes: og-rek's decoder and (the model of) CPython's unpickler both
  accept them and return the same object — each in its own representation, `goOf obj` and `pyOf obj`.
-/
namespace Ogorek

/-- **C06 on CPython's own pickles (Python side).**  The model of CPython's unpickler loads what the model of CPython's
    pickler writes (`cpDumpsFramedS`: every protocol, memo PUTs and GETs, batches, the REDUCE forms of bytes / bytearray,
    one frame) back to the object: it raises nothing, consumes everything and returns `pyOf obj` — lists, dicts and
    bytearrays as heap objects with that content.  Hypotheses are what CPython itself demands: text is valid UTF-8, dict
    keys are hashable with at most one NaN-holding key per dict; at protocol 0 the float-text hypothesis. -/
theorem C06_pickler_pvm (mz : Option PKey → Bool) (py : Bool) (p : Nat) (hp5 : p ≤ 5) (v : PyObjS) (bs : Bytes)
    (hok : pyOKp p (erase v)) (hd : cpDumpsFramedS mz py p v = some bs) (hlen : bs.length < 2 ^ 63) :
    ∃ r st', pvmLoad bs = (.ok r, st', []) ∧ PRep st'.heap r (pyOf (erase v)) := by
  unfold cpDumpsFramedS cpDumpsBodyS at hd
  rcases hs : cpSaveS mz py p v ⟨0, []⟩ with _ | ⟨b, s'⟩
  · simp [hs] at hd
  simp only [hs, Option.map_some, Option.some.injEq] at hd
  subst hd
  obtain ⟨is, hpar, hnofr, hrun⟩ := psk_val (p := p) py v ⟨0, []⟩ b s' hok hs
  -- the run starts where the header leaves the machine, inside the frame if the pickler wrote one; of what it
  -- establishes, the stack and the representation of its one entry are what `pvmLoad` returns
  let framed : Bool := decide (p ≥ 4 ∧ (b ++ [46]).length ≥ 4)
  obtain ⟨st2, e2, _hproto, _hmemo, r, hs2, _hmetas, hrep, _hkeep⟩ :=
    hrun { proto := if p ≥ 2 then p else 0, inFrame := framed } (pprotoOK_start _ p framed rfl) (PMemoInv.init p _ rfl)
  have hlen' : (b ++ [46]).length ≤ 2 ^ 63 - 1 := by simp at hlen ⊢; omega
  have hload := pvmLoad_run p hp5 framed b is hpar hnofr st2 r e2 hs2 (fun _ => hlen')
  refine ⟨r, { st2 with stack := [] }, ?_, PRepG.toRep r _ hrep⟩
  simpa [framed] using hload

/-- **C06 (the two machines agree on what CPython's pickler writes).**  For every object of the basic types with
    tree-shaped containers (str / bytes / bytearray objects may repeat), every protocol 0-5 and decoder configuration:
    the bytes CPython's pickler writes are accepted by og-rek's `Decode` on a new Decoder and by CPython's unpickler, both
    consume all of them, and they return the same object — `goOf obj` on the Go side (`Rep`), `pyOf obj` on the Python
    side (`PRep`).  Hypotheses: what each side demands of dict keys (`pkOK`: acceptable to og-rek's table and pairwise
    different for it; `pyOKp`: hashable in Python, at most one NaN key), valid UTF-8 text, bytearrays below 4 GiB, and at
    protocol 0 the float-text hypothesis. -/
theorem C06_pickler_agree (cfg : Cfg) (hook : Hook) (mz : Option PKey → Bool) (py : Bool) (p : Nat) (hp5 : p ≤ 5) (v : PyObjS) (bs : Bytes)
    (hgo : pkOK cfg p (erase v)) (hpy : pyOKp p (erase v)) (hd : cpDumpsFramedS mz py p v = some bs) (hlen : bs.length < 2 ^ 63)
    (st0 : DState) (hfresh : st0.memo = []) :
    (∃ r st', decode (goCfg cfg) hook st0 bs = (.ok r, st', []) ∧ Rep (goCfg cfg) GoVal.ref st'.heap r (goOf (erase v))) ∧
    (∃ r st', pvmLoad bs = (.ok r, st', []) ∧ PRep st'.heap r (pyOf (erase v))) :=
  ⟨C02_pickler_shared cfg hook mz py p hp5 v bs hgo hd st0 hfresh, C06_pickler_pvm mz py p hp5 v bs hpy hd hlen⟩

/-- Non-vacuity: two records sharing their key strings and a bytes object, a bytearray, a big int and a nested tuple key. -/
example : pyOKb (erase
    (.list [.dict [(.str 1 (sb "id"), .int 1), (.str 2 (sb "data"), .bytes 3 [1, 2, 255]), (.tuple [.int (2 ^ 70), .float 0x7ff8000000000000], .none)],
            .dict [(.str 1 (sb "id"), .int 2), (.str 2 (sb "data"), .bytes 3 [1, 2, 255])], .bytearray 4 [7], .bytes 5 []])) = true := by
  decide

end Ogorek
