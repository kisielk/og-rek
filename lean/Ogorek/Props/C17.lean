import Ogorek.Lemmas.Step
import Ogorek.Props.C04

/-!
  C17 — Unhashable dict keys produce an error, never a panic or a dropped entry.
-/
namespace Ogorek

mutual
/-- The key is, or contains at any depth (through Tuple, Call arguments, Ref id), a list,
    a dict / map, or a bytearray. -/
def hasUnhashable : GoVal → Bool
  | .list _ | .bytearray _ | .href _ | .map _ | .dict _ => true
  | .tuple xs => hasUnhashableList xs
  | .call _ _ args => hasUnhashableList args
  | .ref p => hasUnhashable p
  | _ => false
def hasUnhashableList : List GoVal → Bool
  | [] => false
  | x :: xs => hasUnhashable x || hasUnhashableList xs
end

mutual
/-- The key is or contains a tuple (or a Call, which holds one). -/
def hasTuple : GoVal → Bool
  | .tuple _ | .call _ _ _ => true
  | .ref p => hasTuple p
  | _ => false
end

mutual
theorem hashTree_none_of_hasUnhashable : ∀ k : GoVal, hasUnhashable k = true → hashTree k = none
  | .list _ | .bytearray _ | .href _ | .map _ | .dict _ => fun _ => rfl
  | .tuple xs => fun h => congrArg (Option.map _) (hashTreeList_none_of_hasUnhashable xs h)
  | .call m n args => fun h => congrArg (Option.map _) (hashTreeList_none_of_hasUnhashable args h)
  | .ref p => fun h => congrArg (Option.map _) (hashTree_none_of_hasUnhashable p h)
  | .mark | .none | .bool _ | .int _ | .uint _ | .big _ _ | .float _ | .complex _ _
  | .str _ | .bytestr _ | .bytes _ | .cls _ _ | .user _ | .cycle | .nil => fun h => nomatch h
theorem hashTreeList_none_of_hasUnhashable : ∀ xs : List GoVal, hasUnhashableList xs = true → hashTreeList xs = none
  | [] => fun h => nomatch h
  | x :: xs => fun h => by
    simp only [hashTreeList]
    rcases Bool.or_eq_true_iff.mp h with h | h
    · rw [hashTree_none_of_hasUnhashable x h]
    · rw [hashTreeList_none_of_hasUnhashable xs h]
      cases hashTree x <;> rfl
end

theorem goMapHashable_false_of : ∀ k : GoVal, (hasUnhashable k = true ∨ hasTuple k = true) → goMapHashable k = false
  | .ref p => fun h => goMapHashable_false_of p h
  | .list _ | .bytearray _ | .href _ | .map _ | .dict _ | .tuple _ | .call _ _ _ | .cycle | .nil => fun _ => rfl
  | .mark | .none | .bool _ | .int _ | .uint _ | .big _ _ | .float _ | .complex _ _
  | .str _ | .bytestr _ | .bytes _ | .cls _ _ | .user _ => fun h => h.elim nofun nofun

/-- The keys the property speaks about, for a container of the given kind. -/
def badKey (kind : HKind) (k : GoVal) : Prop :=
  hasUnhashable k = true ∨ (kind ≠ .dict ∧ hasTuple k = true)

theorem tryAssign_none_of_badKey {kind : HKind} {k : GoVal} (h : badKey kind k) (es : Entries) (v : GoVal) :
    tryAssign kind es k v = none := by
  unfold tryAssign
  cases kind
  case dict =>
    rcases h with h | h
    · simp [hashable, hashTree_none_of_hasUnhashable k h]
    · exact absurd rfl h.1
  all_goals
    simp only
    rw [goMapHashable_false_of k (by rcases h with h | h; exact Or.inl h; exact Or.inr h.2)]
    simp

/-- An assignment that is accepted really stores the entry (nothing is dropped). -/
theorem C17_assign_present {kind : HKind} {es es' : Entries} {k v : GoVal}
    (h : tryAssign kind es k v = some es') : (k, v) ∈ es' := by
  unfold tryAssign at h
  split at h <;> split at h <;> simp at h <;> subst h <;> simp [dictSetSpec, mapSet]

theorem assignAll_none_of_badKey (kind : HKind) : ∀ (items : List GoVal) (es : Entries) (i : Nat) (k : GoVal),
    items[2 * i]? = some k → 2 * i + 1 < items.length → badKey kind k → assignAll kind es items = none
  | [], _, i, k, h, _, _ => by simp at h
  | [_], _, i, k, _, hl, _ => by simp at hl
  | a :: b :: rest, es, i, k, h, hl, hb => by
    unfold assignAll
    cases i with
    | zero =>
      simp at h; subst h
      rw [tryAssign_none_of_badKey hb]
    | succ i =>
      split
      · apply assignAll_none_of_badKey kind rest _ i k
        · simpa [Nat.mul_succ] using h
        · simp at hl; omega
        · exact hb
      · rfl

/-- **C17 (SETITEM).** Key unhashable (or, for a builtin map, a tuple): an error — not a panic,
    not success. -/
theorem C17_setitem (mc : MCfg) (hook : Hook) (pos : Nat) (st : DState) (v k : GoVal) (id : Nat)
    (s : List GoVal) (o : HObj) (hs : st.stack = v :: k :: .href id :: s) (ho : st.heap[id]? = some o)
    (hkind : o.kind ≠ .list) (hk : isMark k = false) (hv : isMark v = false) (hb : badKey o.kind k) :
    exec mc hook .setitem pos st = .error .other := by
  rw [exec_setitem hs hk hv ho (beq_false_of_ne hkind), tryAssign_none_of_badKey hb]

/-- **C17 (DICT).** The same error for such a key anywhere among the items of a DICT. -/
theorem C17_dict (mc : MCfg) (hook : Hook) (pos : Nat) (st : DState) (above below : List GoVal)
    (hs : splitAtMark st.stack = some (above, below)) (heven : above.length % 2 = 0)
    (i : Nat) (k : GoVal) (hi : above.reverse[2 * i]? = some k) (hl : 2 * i + 1 < above.length)
    (hb : badKey (dictKind mc.cfg) k) :
    exec mc hook .dict pos st = .error .other := by
  dsimp only [exec]
  rw [hs]
  dsimp only
  rw [if_neg (by omega : ¬ above.length % 2 ≠ 0), assignAll_none_of_badKey _ _ _ i k hi (by simpa using hl) hb]

/-- **C17 (SETITEMS).** And among the items of a SETITEMS on a dict or map. -/
theorem C17_setitems (mc : MCfg) (hook : Hook) (pos : Nat) (st : DState) (above below' : List GoVal) (id : Nat)
    (o : HObj) (hs : splitAtMark st.stack = some (above, .href id :: below')) (heven : above.length % 2 = 0)
    (ho : st.heap[id]? = some o) (hkind : o.kind ≠ .list)
    (i : Nat) (k : GoVal) (hi : above.reverse[2 * i]? = some k) (hl : 2 * i + 1 < above.length)
    (hb : badKey o.kind k) :
    exec mc hook .setitems pos st = .error .other := by
  dsimp only [exec]
  rw [hs]
  dsimp only
  rw [if_neg (by omega : ¬ above.length % 2 ≠ 0), ho]
  dsimp only
  rw [beq_false_of_ne hkind, assignAll_none_of_badKey _ _ _ i k hi (by simpa using hl) hb]
  rfl


/-- **C17 (API).** `Get`, `Set`, `Del` with a key that is or contains a list, dict or bytearray
    panic with `unhashable type: …` — and, panicking before the table is touched, leave the
    contents as they were (there is no new contents in the outcome). -/
theorem C17_api (pick : Entries → Nat) (es : Entries) (k v : GoVal) (h : hasUnhashable k = true) :
    apiGet pick es k = .panic unhashableMsg ∧ apiSet pick es k v = .panic unhashableMsg ∧
    apiDel pick es k = .panic unhashableMsg := by
  have : hashable k = false := by simp [hashable, hashTree_none_of_hasUnhashable k h]
  simp [apiGet, apiSet, apiDel, this]

end Ogorek
