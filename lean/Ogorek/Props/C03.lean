import Ogorek.Lemmas.RoundTripN
import Ogorek.Props.C04
import Ogorek.Lemmas.QuoteInv
import Ogorek.Generated.IsPrint

/-!
  C03 — Encode then Decode is the identity on canonical values, a normal form otherwise.
-/
namespace Ogorek

/-- **C03 (int64).** Whatever form `encodeInt` picks — BININT1, BININT2, BININT or INT text —
    the decoder reads the same int64 back and stops exactly at the end of it. -/
theorem C03_int (c : ECfg) (i : Int) (hi : inInt64 i = true) (t : Bytes) :
    (encodeInt c i).err = none ∧
    parseInsn ((encodeInt c i).chunks.flatten ++ t) = .ok (.pushInt i, t) := encodeInt_parse c i hi t

theorem decode_of_run (mc : MCfg) (hook : Hook) (st0 st' : DState) (pre : Bytes) (is : List Insn) (r : GoVal) (s : List GoVal)
    (hp : Parses pre is) (hr : runFrom mc hook 0 is { st0 with stack := [], proto := 0 } = .ok st')
    (hs : st'.stack = r :: s) (hm : isMark r = false) :
    decode mc hook st0 (pre ++ [46]) = (.ok r, { st' with stack := s }, []) := by
  unfold decode
  have hfuel := decodeLoop_fuel mc hook ((pre ++ [46]).length + 1) (((pre ++ [46]).length + 1) + is.length) 0
    { st0 with stack := [], proto := 0 } (pre ++ [46]) (by omega) (by omega)
  have hrun := decodeLoop_run mc hook is pre 0 _ st' [46] ((pre ++ ([46] : Bytes)).length + 1) hp hr
  rw [hfuel, hrun, decodeLoop_cons_stop (rest := []) rfl, popUser_cons hs hm]

theorem parseArg_proto {p : Nat} (hp : p < 256) (t : Bytes) : parseArg 0x80 (UInt8.ofNat p :: t) = .ok (.proto p, t) := by
  have hpb : (UInt8.ofNat p).toNat = p := by simp [UInt8.toNat_ofNat']; omega
  have hb : readByte (UInt8.ofNat p :: t) = .ok (UInt8.ofNat p, t) := rfl
  rw [parseArg_128, Rd.map_ok _ hb, hpb]

theorem parses_proto {p : Nat} (hp : p < 256) : Parses [0x80, UInt8.ofNat p] [.proto p] :=
  Parses.single rfl (parseArg_proto hp)

theorem header_runs (mc : MCfg) (hook : Hook) (p : Nat) (hp5 : p ≤ 5) (fr : Bytes) (hfr : fr = [] ∨ ∃ n, fr = 0x95 :: le8 n) :
    ∃ his, Parses ((if p ≥ 2 then [0x80, UInt8.ofNat p] else []) ++ fr) his ∧
      ∀ insn st, runFrom mc hook insn his st = .ok { st with proto := if p ≥ 2 then p else st.proto } := by
  have hproto := parses_proto (p := p) (by omega)
  have hframe : ∀ n, Parses (0x95 :: le8 n) [.frame] := by
    intro n
    apply Parses.single rfl
    intro t
    exact parseInsn_of parseArg_149 (Rd.map_ok _ (readFull_exact 8 _ t (natLE_length 8 _)))
  by_cases h2 : p ≥ 2
  · simp only [h2, if_true]
    rcases hfr with rfl | ⟨n, rfl⟩
    · refine ⟨[.proto p], by simpa using hproto, fun insn st => ?_⟩
      simp [runFrom, exec, hp5]
    · refine ⟨[.proto p, .frame], by simpa using Parses.append hproto (hframe n), fun insn st => ?_⟩
      simp [runFrom, exec, hp5]
  · simp only [h2, if_false, List.nil_append]
    rcases hfr with rfl | ⟨n, rfl⟩
    · exact ⟨[], Parses.nil, fun insn st => by simp [runFrom]⟩
    · refine ⟨[.frame], hframe n, fun insn st => ?_⟩
      simp [runFrom, exec]

theorem protoOK_start (c : ECfg) (p : Nat) (hc : c.proto = p) (st0 : DState) :
    ProtoOK c { st0 with stack := [], proto := if p ≥ 2 then p else 0 } := by
  simp only [ProtoOK, pybuiltinModule, pybuiltinModuleE, hc]
  by_cases h2 : p ≥ 2
  · have h1 : (p : Int) ≤ 2 ↔ p ≤ 2 := by omega
    simp only [if_pos h2, h1]
  · have h1 : (p : Int) ≤ 2 := by omega
    simp [h2, h1]

/-- `decode` around a run of `runFrom`: the decoder is reset, reads the PROTO header (from protocol 2 on) and the one FRAME a
    pickler may write, runs the instructions (numbered from `n` on) and returns at STOP what they left on the stack. -/
theorem decode_header (mc : MCfg) (hook : Hook) (p : Nat) (hp5 : p ≤ 5) (fr : Bytes) (hfr : fr = [] ∨ ∃ n, fr = 0x95 :: le8 n) :
    ∃ n, ∀ {b : Bytes} {is : List Insn}, Parses b is → ∀ (st0 st2 : DState) (r : GoVal),
      runFrom mc hook n is { st0 with stack := [], proto := if p ≥ 2 then p else 0 } = .ok st2 → st2.stack = [r] → isMark r = false →
      decode mc hook st0 ((if p ≥ 2 then [0x80, UInt8.ofNat p] else []) ++ fr ++ (b ++ [46])) = (.ok r, { st2 with stack := [] }, []) := by
  obtain ⟨his, hph, hrh⟩ := header_runs mc hook p hp5 fr hfr
  refine ⟨0 + his.length, fun {b is} hpar st0 st2 r e2 hs hm => ?_⟩
  have hall : runFrom mc hook 0 (his ++ is) { st0 with stack := [], proto := 0 } = .ok st2 := by
    rw [runFrom_append mc hook his is 0 _ _ (hrh 0 _)]
    exact e2
  rw [← List.append_assoc]
  exact decode_of_run mc hook st0 st2 _ (his ++ is) r [] (Parses.append hph hpar) hall hs hm

theorem decode_encodeTop {mc : MCfg} {hook : Hook} {P : List HObj → GoVal → Prop} (ip : IsPrint) (c : ECfg) (v : GoVal)
    (hp0 : 0 ≤ c.proto) (hp5 : c.proto ≤ 5) (he : (encodeTop ip c none v).err = none)
    (hv : (enc ip c v).err = none → Pushes mc hook c (flat (enc ip c v)) P) (hm : ∀ h r, P h r → isMark r = false)
    (st0 : DState) :
    ∃ r st', decode mc hook st0 (flat (encodeTop ip c none v)) = (.ok r, st', []) ∧ P st'.heap r := by
  obtain ⟨hev, e⟩ := flat_encodeTop ip c v he
  obtain ⟨is, hpar, hrun⟩ := hv hev
  obtain ⟨n, hdec⟩ := decode_header mc hook c.proto.toNat (by omega) [] (Or.inl rfl)
  obtain ⟨st2, e2, _, r, hs2, hP⟩ := hrun n _ (protoOK_start c c.proto.toNat (Int.toNat_of_nonneg hp0).symm st0)
  have hd := hdec hpar st0 st2 r e2 hs2 (hm _ _ hP)
  rw [List.append_nil] at hd
  rw [e]
  exact ⟨r, _, hd, hP⟩

/-- **C03 (round trip, protocols 0–5).** For every canonical value `v` — None, bool, int64, *big.Int,
    float64, string, ByteString, Bytes, []byte, Class, and lists, Tuples, Calls, Refs, builtin maps and
    Dicts of these nested to any depth (`canon`: payloads below 2^32 / 2^31 bytes; a Call is not one of
    the bytes / bytearray forms the decoder interprets; the keys of each map / Dict literal are
    acceptable to the decoder's table and pairwise different for it, `keysOK`) — every protocol 0..5,
    both StrictUnicode settings (the same on both sides) and both PyDict settings: if `Encode` returns
    no error (i.e. none of the three documented limitations applies), then `Decode` of exactly the bytes
    it wrote succeeds, consumes all of them, and returns a value that represents `v` (`Rep`: identical
    in type and content; ByteString comes back as string when StrictUnicode is off; a map comes back as
    Dict with PyDict on and the other way round; big ints are fresh objects).  The decoder may start
    from any state (memo and heap left by earlier pickles of the stream).
    Hypotheses besides `canon`: the printability table does not call LF printable (a regenerated fact
    about strconv.IsPrint); and, at protocol 0 only, `FloatTextOK f` for each float64 in `v`: ParseFloat
    reads its `%g` text back as the same float (strconv's shortest-round-trip property, not proved
    here — it fails by design only for NaNs with a payload, which `%g` prints as plain `NaN`). Everything else
    at protocol 0 — both text codecs and the absence of a newline in the `%g` text — is proved.
    Not covered (tied by correspondence): `*big.Int` keys of builtin maps (pointer identity); Tuple /
    Call keys are covered for Dicts only (a builtin map cannot hold them). -/
theorem C03_roundtrip (ip : IsPrint) (hip : ip 10 = false) (c : ECfg) (cfg : Cfg) (v : GoVal)
    (hp0 : 0 ≤ c.proto) (hp5 : c.proto ≤ 5) (hsu : cfg.su = c.su)
    (hc : canon cfg true v = true) (hf : FloatsOK c (floatsOf v)) (he : (encodeTop ip c none v).err = none) (st0 : DState) :
    ∃ r st', decode (goCfg cfg) none st0 (flat (encodeTop ip c none v)) = (.ok r, st', []) ∧
      Rep (goCfg cfg) GoVal.ref st'.heap r v := by
  exact decode_encodeTop ip c v hp0 hp5 he
    (rt_val ip ⟨fun _ => rfl, fun _ => rfl⟩ (fun _ _ => rfl) hip hsu rfl v hc hf) (fun _ _ h => h.not_mark) st0

/-- The same from protocol 1 on, where no text form is used: no hypothesis about floats at all. -/
theorem C03_roundtrip_bin (ip : IsPrint) (hip : ip 10 = false) (c : ECfg) (cfg : Cfg) (v : GoVal)
    (hp1 : 1 ≤ c.proto) (hp5 : c.proto ≤ 5) (hsu : cfg.su = c.su)
    (hc : canon cfg true v = true) (he : (encodeTop ip c none v).err = none) (st0 : DState) :
    ∃ r st', decode (goCfg cfg) none st0 (flat (encodeTop ip c none v)) = (.ok r, st', []) ∧
      Rep (goCfg cfg) GoVal.ref st'.heap r v :=
  C03_roundtrip ip hip c cfg v (by omega) hp5 hsu hc (fun _ _ => Or.inl hp1) he st0

/-- Non-vacuity: a nested value with a Dict keyed by an int, a tuple holding a big int and a NaN, and a
    string meets the theorem's hypotheses (PyDict on), and so does a builtin map (PyDict off). -/
example : canon { pyDict := true, su := true } true
    (.list [.dict [(.int 1, .str (sb "a")), (.tuple [.big 7 (2 ^ 70), .float 0x7ff8000000000001], .none), (.bytestr (sb "k"), .list [])],
            .call (sb "mod") (sb "fn") [.bytes [1, 2, 3], .ref (.str (sb "oid"))], .bytearray [0, 255]]) = true := by
  decide

example : canon { pyDict := false, su := false } true
    (.tuple [.map [(.int 1, .str (sb "a")), (.float 0, .none), (.str (sb "k"), .map [])], .big 3 (-5)]) = true := by
  decide

/-- **C03 (STRING text form, protocol 0).** For EVERY byte string `s` — any bytes, valid UTF-8 or not —
    and every printability table that does not call LF printable: the decoder reads `S"…"\n` as written
    by the encoder (`pyquote`) back as exactly `s`, and stops right after the line.  (The quoting and
    `pydecodeStringEscape` are inverse: `pyquote_inv`; the quoted text holds no newline: `pyquote_no_lf`.) -/
theorem C03_string_p0 (ip : IsPrint) (hip : ip 10 = false) (c : ECfg) (hp : ¬ c.proto ≥ 1) (s t : Bytes) :
    parseInsn (flat (encodeByteString ip c s) ++ t) = .ok (.pushByteString s, t) := by
  obtain ⟨b1, _, e, _, hpi, rfl⟩ := parses_bytestring_txt ip hip c s hp
  rw [e, List.append_nil]; exact hpi t

/-- **C03 (UNICODE text form, protocol 0).** Every string the encoder accepts (valid UTF-8) is read back
    from `V…\n` exactly (`rue_inv`, `rue_no_lf`). -/
theorem C03_unicode_p0 (c : ECfg) (hp : ¬ c.proto ≥ 1) (s t : Bytes) (he : (encodeUnicode c s).err = none) :
    parseInsn (flat (encodeUnicode c s) ++ t) = .ok (.pushStr s, t) := by
  obtain ⟨b1, _, e, _, hpi, rfl⟩ := parses_unicode_txt c s hp he
  rw [e, List.append_nil]; exact hpi t

set_option maxRecDepth 100000 in
/-- The hypothesis about the printability table holds of the table regenerated from the toolchain's
    `strconv.IsPrint` on every run: LF is not printable. -/
theorem C03_isprint_lf : Generated.isPrint 10 = false := by decide

end Ogorek
