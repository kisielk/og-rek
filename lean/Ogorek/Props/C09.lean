import Ogorek.Props.C06
import Ogorek.Props.C08
import Ogorek.Props.C17

/-!
  C09 — Dict opcodes build Python's dict in PyDict mode and a plain Go map otherwise.
-/
namespace Ogorek

/-- **C09 (PyDict assignment).** An accepted key assignment on a Dict is `Dict.Set`: every entry
    whose key equals the new key under Python equality goes, the new entry is added. -/
theorem C09_setitem_dict (es : Entries) (k v : GoVal) (h : hashable k = true) :
    tryAssign .dict es k v = some (dictSetSpec es k v) := by
  simp [tryAssign, h]

/-- **C09 (map assignment).** On a builtin map it is `m[k] = v` under Go key identity. -/
theorem C09_setitem_map (es : Entries) (k v : GoVal) (h : goMapHashable k = true) :
    tryAssign .map es k v = some (mapSet es k v) := by
  simp [tryAssign, h]

/-- **C09 (classes and final values).** After the assignment there is exactly one entry in the class
    of the new key — with the new value — and every entry of another class is untouched. -/
theorem C09_dictSet_classes (es : Entries) (k v : GoVal) :
    (∀ e ∈ dictSetSpec es k v, goEqual k e.1 = true → e = (k, v)) ∧
    (k, v) ∈ dictSetSpec es k v ∧
    (∀ e ∈ es, goEqual k e.1 = false → e ∈ dictSetSpec es k v) ∧
    (∀ e ∈ dictSetSpec es k v, e = (k, v) ∨ e ∈ es) := by
  refine ⟨fun e he hq => C08_set_del es k v e he hq, mem_dictSetSpec.mpr (Or.inr rfl),
    fun e he hq => mem_dictSetSpec.mpr (Or.inl ⟨he, hq⟩), ?_⟩
  intro e he
  rcases mem_dictSetSpec.mp he with h | h
  · exact Or.inr h.1
  · exact Or.inl h

/-- **C09 (Go key identity).** For a builtin map: `int64 1`, `float64 1`, `true` and two distinct
    `*big.Int` 1 are four different keys; NaN never equals itself; +0 and −0 are one key; the three
    string types are three keys. -/
theorem C09_map_identity :
    goKeyEq (.int 1) (.float 0x3ff0000000000000) = false ∧ goKeyEq (.int 1) (.bool true) = false ∧
    goKeyEq (.int 1) (.big 7 1) = false ∧ goKeyEq (.big 7 1) (.big 8 1) = false ∧ goKeyEq (.big 7 1) (.big 7 1) = true ∧
    goKeyEq (.float 0x7ff8000000000001) (.float 0x7ff8000000000001) = false ∧
    goKeyEq (.float 0) (.float 0x8000000000000000) = true ∧
    goKeyEq (.str [97]) (.bytestr [97]) = false ∧ goKeyEq (.str [97]) (.bytes [97]) = false ∧
    goKeyEq (.int 1) (.int 1) = true := by
  decide

end Ogorek
