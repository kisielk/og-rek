import Ogorek.Lemmas.PvmForms2
import Ogorek.Lemmas.PvmDict
import Ogorek.Props.C01
import Ogorek.Props.C03

/-!
  # C01 — the encoder's output means the documented Python value under CPython's unpickler

  For every Go value of the documented table, if `Encode` returns no error then the model of CPython's unpickler
  (`Ogorek/Pvm.lean`) loads exactly the bytes written and returns the Python value the type table (`tableP`) assigns
  to the Go value.  The hypotheses (`pyWF`) are what CPython itself demands of a pickle and og-rek does not check, each
  a recorded finding or a documented limit; `C01_K3_pvm` and `C01_K5_pvm` show that without them the machine raises.
-/
namespace Ogorek

mutual
/-- The Python value of the documented table (`table` of `Lemmas/PvmRep.lean`), with the protocol-0 rule for
    persistent ids (the id line of PERSID is text). -/
def tableP (c : ECfg) : GoVal → PyVal
  | .nil => .none
  | .none => .none
  | .bool b => .bool b
  | .int i => .int i
  | .uint u => .int u
  | .big _ i => .int i
  | .float f => .float f
  | .str s => pyStrOf c s
  | .bytestr s => .str2 s
  | .bytes s => .bytes s
  | .bytearray s => .bytearray s
  | .list xs => .list (tablePList c xs)
  | .tuple xs => .tuple (tablePList c xs)
  | .map kvs => .dict (pyDictOf (tablePPairs c kvs))
  | .dict kvs => .dict (pyDictOf (tablePPairs c kvs))
  | .cls m n => .glob m n
  | .call m n args => .call (.glob m n) (tablePList c args)
  | .ref pid =>
    if c.proto = 0 then
      match pid with
      | .str s => .pers (.str s)
      | _ => .none
    else .pers (tableP c pid)
  | .user n => .dict [(pyStrOf c (sb "N"), .int n)]
  | .complex _ _ => .none
  | .mark => .none
  | .href _ => .none
  | .cycle => .none
def tablePList (c : ECfg) : List GoVal → List PyVal
  | [] => []
  | x :: xs => tableP c x :: tablePList c xs
def tablePPairs (c : ECfg) : List (GoVal × GoVal) → List (PyVal × PyVal)
  | [] => []
  | (k, v) :: r => (tableP c k, tableP c v) :: tablePPairs c r
end

theorem tablePList_length (c : ECfg) : (xs : List GoVal) → (tablePList c xs).length = xs.length
  | [] => rfl
  | _ :: xs => congrArg (· + 1) (tablePList_length c xs)

mutual
/-- What CPython demands of the value and the encoder does not check. -/
def pyWF (c : ECfg) : GoVal → Bool
  | .nil => true
  | .none => true
  | .bool _ => true
  | .int i => inInt64 i
  | .uint _ => true
  | .big _ _ => true
  | .float _ => true
  | .str s => strOK c s
  | .bytestr s => decide (s.length < 2 ^ 32)
  | .bytes s => decide (s.length < 2 ^ 31)
  | .bytearray s => decide (s.length < 2 ^ 31)
  | .list xs => pyWFList c xs
  | .tuple xs => pyWFList c xs
  | .map kvs => pyWFPairs c kvs && keysPyOK (tablePPairs c kvs)
  | .dict kvs => pyWFPairs c kvs && keysPyOK (tablePPairs c kvs)
  | .cls m n => nameOK m && nameOK n
  | .call m n args => nameOK m && nameOK n && !reservedCall m n && pyWFList c args
  | .ref pid =>
    if c.proto = 0 then
      match pid with
      | .str s => isAscii s
      | _ => true          -- the encoder itself refuses these at protocol 0
    else pyWF c pid
  | .user n => inInt64 n
  | .complex _ _ => false
  | .mark => false
  | .href _ => false
  | .cycle => false
def pyWFList (c : ECfg) : List GoVal → Bool
  | [] => true
  | x :: xs => pyWF c x && pyWFList c xs
def pyWFPairs (c : ECfg) : List (GoVal × GoVal) → Bool
  | [] => true
  | (k, v) :: r => pyWF c k && pyWF c v && pyWFPairs c r
end

section main
variable {c : ECfg} (ip : IsPrint)

theorem ppushes_uint (u : Nat) : PPushes c (flat (encodeUint c u)) (fun _ r => r = .int u) := by
  unfold encodeUint
  split
  · rename_i h
    exact ppushes_int (u : Int) (by unfold inInt64 minInt64; simp; exact h)
  · rename_i h
    exact PPushes.one (.int u) (parses_uint_big u h) (fun _ => rfl) (fun _ => rfl)

theorem PRep_pyStrOf {h : List PObj} {r : PyVal} {s : Bytes} : PRep h r (pyStrOf c s) ↔ r = pyStrOf c s := by
  unfold pyStrOf
  split <;> exact Iff.rfl

theorem PPushesN.zero {PL : List PObj → List PyVal → Prop} (h : ∀ hp, PL hp []) : PPushesN c [] 0 PL :=
  PRuns.weaken PRuns.nil fun st st' _ _ e => ⟨[], by simp [e], rfl, h _⟩

theorem PPushesN.nil : PPushesN c [] 0 (fun _ rs => rs = []) :=
  PPushesN.zero fun _ => rfl

theorem PPushesN.cons {b1 b2 : Bytes} {x : PyVal} {xs : List PyVal} {l : Nat}
    (h1 : PPushes c b1 (fun h r => PRep h r x)) (h2 : PPushesN c b2 l (fun h rs => PRepList h rs xs)) :
    PPushesN c (b1 ++ b2) (l + 1) (fun h rs => PRepList h rs (x :: xs)) := by
  refine PRuns.weaken (PRuns.seq h1 h2) ?_
  intro st st2 _ _ ⟨st1, _, f2, ⟨r, hs1, hr⟩, ⟨rs, hs2, hlen, hPL⟩⟩
  obtain ⟨t, ht⟩ := f2.heap
  refine ⟨r :: rs, by simp [hs2, hs1], by simp [hlen], ?_⟩
  exact ⟨by rw [ht]; exact PRep.mono _ t r _ hr, hPL⟩

theorem ppushes_tupleList (xs : List GoVal) {PL : List PObj → List PyVal → Prop}
    (he : (encodeTupleOf c xs.length (encList ip c xs)).err = none)
    (hi : (encList ip c xs).err = none → PPushesN c (flat (encList ip c xs)) xs.length PL) :
    PPushes c (flat (encodeTupleOf c xs.length (encList ip c xs))) (fun h r => ∃ rs, r = .tuple rs ∧ PL h rs) := by
  have hie := encList_err_of_tuple ip c he
  refine ppushes_tupleOf xs.length _ PL hie (fun h => ?_) (hi hie)
  cases List.length_eq_zero_iff.mp h
  rfl

theorem ppushes_user (hip : ip 10 = false) (n : Nat) (hw : inInt64 n = true) (he : (enc ip c (.user n)).err = none) :
    PPushes c (flat (enc ip c (.user n))) (fun h r => PRep h r (tableP c (.user n))) := by
  dsimp only [enc, tableP] at he ⊢
  obtain ⟨h123, _⟩ := seq_err_none he
  obtain ⟨h12, h3⟩ := seq_err_none h123
  obtain ⟨_, h2⟩ := seq_err_none h12
  have hs : strOK c (sb "N") = true := by
    unfold strOK; simp; exact ⟨by decide, Or.inr (by decide)⟩
  have hitems : PPushesN c (flat (encodeString ip c (sb "N") +> encodeInt c n)) 2
      (fun h rs => PRepList h rs (flatP [(pyStrOf c (sb "N"), PyVal.int n)])) := by
    rw [flat_seq _ _ h2]
    refine PRuns.weaken (PRuns.seq (ppushes_string ip hip (sb "N") hs h2) (ppushes_int (n : Int) hw)) ?_
    intro st st' _ _ ⟨st1, _, _, ⟨a, ha, pa⟩, ⟨b, hb, pb⟩⟩
    subst pa; subst pb
    exact ⟨[pyStrOf c (sb "N"), .int n], by simp [hb, ha], rfl, PRep_pyStrOf.mpr rfl, rfl, trivial⟩
  have hk : keysPyOK [(pyStrOf c (sb "N"), PyVal.int n)] = true := by
    unfold pyStrOf
    split <;> rfl
  have e : (emit [40] +> encodeString ip c (sb "N") +> encodeInt c ↑n +> emit [100])
      = (emit [40] +> (encodeString ip c (sb "N") +> encodeInt c ↑n) +> emit [100]) := by
    simp [Out.seq, emit, h2]
  rw [e] at he ⊢
  have hne : ¬ (c.proto ≥ 1 ∧ 1 = 0) := fun h => absurd h.2 Nat.one_ne_zero
  have hd := ppushes_dictform (c := c) [(pyStrOf c (sb "N"), PyVal.int n)] 1 (by simp) _ hk
    ((congrArg Out.err (if_neg hne)).trans he) fun _ => hitems
  rwa [if_neg hne] at hd

mutual
theorem pt_val (hip : ip 10 = false) :
    (v : GoVal) → pyWF c v = true → FloatsOK c (floatsOf v) → (enc ip c v).err = none →
    PPushes c (flat (enc ip c v)) (fun h r => PRep h r (tableP c v))
  | .none | .nil => fun _ _ _ => ppushes_none
  | .bool b => fun _ _ _ => ppushes_bool b
  | .int i => fun hw _ _ => ppushes_int i hw
  | .uint u => fun _ _ _ => ppushes_uint u
  | .big _ i => fun _ _ _ => ppushes_long i
  | .float f => fun _ hf _ => ppushes_float f (hf f (List.mem_singleton_self f))
  | .str s => fun hw _ he =>
    PRuns.weaken (ppushes_string ip hip s hw he) fun _ _ _ _ ⟨r, hs, hr⟩ => ⟨r, hs, PRep_pyStrOf.mpr hr⟩
  | .bytestr s => fun hw _ _ => ppushes_bytestring ip hip s (of_decide_eq_true hw)
  | .bytes s => fun hw _ he => ppushes_bytes ip hip s (of_decide_eq_true hw) he
  | .bytearray s => fun hw _ he => ppushes_bytearray ip hip s (of_decide_eq_true hw) he
  | .cls m n => fun hw _ he =>
    have hw := (Bool.and_eq_true _ _).mp hw
    ppushes_class ip hip m n hw.1 hw.2 he
  | .list xs => fun hw hf he =>
    ppushes_listform (tablePList c xs) xs.length (fun h => by cases List.length_eq_zero_iff.mp h; rfl) _ he (pt_list hip xs hw hf)
  | .tuple xs => fun hw hf he => ppushes_tupleList ip xs he (pt_list hip xs hw hf)
  | .map kvs | .dict kvs => fun hw hf he =>
    have hw := (Bool.and_eq_true _ _).mp hw
    ppushes_dictform (tablePPairs c kvs) kvs.length (fun h => by cases List.length_eq_zero_iff.mp h; rfl) _ hw.2 he
      (pt_pairs hip kvs hw.1 hf)
  | .call m n args => fun hw hf he => by
    dsimp only [pyWF] at hw
    simp only [Bool.and_eq_true, Bool.not_eq_true'] at hw
    obtain ⟨⟨⟨hm, hn⟩, hres⟩, hargs⟩ := hw
    obtain ⟨h12, _⟩ := seq_err_none he
    obtain ⟨h1, h2⟩ := seq_err_none h12
    refine ppushes_reduce m n _ _ _ _ h1 h2 (ppushes_class ip hip m n hm hn h1)
      (ppushes_tupleList ip args h2 (pt_list hip args hargs hf)) fun st rs _ hPL => ?_
    exact ⟨[], .call (.glob m n) rs, pyCall_symbolic st m n rs hres, .glob m n, rs, rfl, rfl, by rwa [List.append_nil]⟩
  | .ref pid => fun hw hf he => by
    dsimp only [enc, pyWF, tableP] at hw he ⊢
    by_cases h0 : c.proto = 0
    · rw [if_pos h0] at hw he
      rw [if_pos h0, if_pos h0]
      cases pid with
      | str s =>
        dsimp only at hw he ⊢
        cases hlf : containsLF s
        · rw [if_neg Bool.false_ne_true]
          exact PPushes.one (.pers (.str s)) (parses_persid_txt s hlf) (fun st => by simp [pexec, hw]) fun h => ⟨.str s, rfl, rfl⟩
        · rw [hlf] at he; cases he
      | _ => cases he
    · rw [if_neg h0] at hw he
      rw [if_neg h0, if_neg h0]
      obtain ⟨h1, _⟩ := seq_err_none he
      rw [flat_seq _ _ h1, flat_emit]
      refine PRuns.snoc (pt_val hip pid hw hf h1) (parses_op 81 .binpersid rfl parseArg_81) ?_
      intro st st1 _ _ ⟨r, hs, hr⟩
      refine ⟨{ st1 with stack := .pers r :: st.stack }, ?_, .of_heap_eq rfl rfl rfl rfl, .pers r, rfl, r, rfl, hr⟩
      simp [pexec, hs]
  | .user n => fun hw _ he => ppushes_user ip hip n hw he
  | .complex _ _ | .mark | .href _ | .cycle => fun hw _ _ => by cases hw
theorem pt_list (hip : ip 10 = false) :
    (xs : List GoVal) → pyWFList c xs = true → FloatsOK c (floatsOfList xs) → (encList ip c xs).err = none →
    PPushesN c (flat (encList ip c xs)) xs.length (fun h rs => PRepList h rs (tablePList c xs))
  | [], _, _, _ => PPushesN.zero fun _ => trivial
  | x :: xs, hw, hf, he => by
    have hw := (Bool.and_eq_true _ _).mp hw
    obtain ⟨h1, h2⟩ := seq_err_none he
    rw [show flat (encList ip c (x :: xs)) = _ from flat_seq _ _ h1]
    exact PPushesN.cons (pt_val hip x hw.1 hf.left h1) (pt_list hip xs hw.2 hf.right h2)
theorem pt_pairs (hip : ip 10 = false) :
    (kvs : List (GoVal × GoVal)) → pyWFPairs c kvs = true → FloatsOK c (floatsOfPairs kvs) → (encPairs ip c kvs).err = none →
    PPushesN c (flat (encPairs ip c kvs)) (2 * kvs.length) (fun h rs => PRepList h rs (flatP (tablePPairs c kvs)))
  | [], _, _, _ => PPushesN.zero fun _ => trivial
  | (k, v) :: kvs, hw, hf, he => by
    have hw := (Bool.and_eq_true _ _).mp hw
    have hkv := (Bool.and_eq_true _ _).mp hw.1
    obtain ⟨h12, h3⟩ := seq_err_none he
    obtain ⟨h1, h2⟩ := seq_err_none h12
    rw [show flat (encPairs ip c ((k, v) :: kvs)) = _ from flat_seq _ _ h12, flat_seq _ _ h1, List.append_assoc]
    exact PPushesN.cons (pt_val hip k hkv.1 hf.left.left h1)
      (PPushesN.cons (pt_val hip v hkv.2 hf.left.right h2) (pt_pairs hip kvs hw.2 hf.right h3))
end

end main

theorem pvmLoop_stop (f : Nat) (st : PState) (r : PyVal) (s : List PyVal) (t : Bytes) (hs : st.stack = r :: s) :
    pvmLoop (f + 1) st (46 :: t) = (.ok r, { st with stack := s }, t) := by
  rw [pvmLoop]
  simp [readByte, parseArg_46, Rd.pure, hs]

theorem pvmLoad_header (p : Nat) (hp5 : p ≤ 5) : ∃ fuel, 0 < fuel ∧ ∀ rest : Bytes,
    pvmLoad ((if 2 ≤ p then [0x80, UInt8.ofNat p] else []) ++ rest) =
      pvmLoop (rest.length + fuel) { proto := if 2 ≤ p then p else 0 } rest := by
  by_cases h2 : 2 ≤ p
  · refine ⟨2, by omega, fun rest => ?_⟩
    rw [if_pos h2, if_pos h2]
    exact pvmLoop_step (rest.length + 2) {} { proto := p } 0x80 _ rest (.proto p) (parseArg_proto (by omega) _) rfl rfl
      (if_pos hp5)
  · exact ⟨1, by omega, fun rest => by rw [if_neg h2, if_neg h2]; rfl⟩

theorem pvmLoop_frame (f : Nat) (st : PState) (n : Nat) (rest : Bytes) (hin : st.inFrame = false)
    (h0 : 0 < n) (h63 : n ≤ 2 ^ 63 - 1) (hge : n ≥ rest.length) :
    pvmLoop (f + 1) st (0x95 :: (le8 n ++ rest)) = pvmLoop f { st with inFrame := true } rest := by
  rw [pvmLoop]
  have hpa : parseArg 0x95 (le8 n ++ rest) = .ok (.frame, rest) := by
    rw [parseArg_149]
    exact Rd.map_ok _ (readFull_exact 8 _ rest (natLE_length 8 _))
  have htake : (le8 n ++ rest).take 8 = le8 n := by
    have : (le8 n).length = 8 := natLE_length 8 n
    rw [List.take_append_of_le_length (by omega), List.take_of_length_le (by omega)]
  have hle : leNat (le8 n) = n := leNat_natLE_of_lt (show n < 256 ^ 8 by omega)
  have hn0 : ¬ n = 0 := by omega
  have hgt : ¬ n > 2 ^ 63 - 1 := by omega
  simp only [readByte, hpa, frameStep, Insn.isFrame, if_true, htake, hle, hgt, if_false, hin, Bool.false_and, Bool.false_eq_true, hn0,
    hge, pexec]

theorem pprotoOK_start (c : ECfg) (p : Nat) (framed : Bool) (hc : c.proto = p) :
    PProtoOK c { proto := if p ≥ 2 then p else 0, inFrame := framed } := by
  simp only [PProtoOK, pyExecModule, pybuiltinModuleE, hc]
  by_cases h2 : p ≥ 2
  · have h1 : (p : Int) ≤ 2 ↔ p < 3 := by omega
    simp only [if_pos h2, h1]
  · have h1 : (p : Int) ≤ 2 := by omega
    simp only [if_neg h2, h1, if_true]
    rfl

/-- `pvmLoad` around a run of `prunFrom`: the PROTO header (from protocol 2 on), the one FRAME CPython's pickler may write, the
    instructions, STOP.  The encoder's output has no frame (`pvmLoad_pushes`); the pickler's output uses both. -/
theorem pvmLoad_run (p : Nat) (hp5 : p ≤ 5) (framed : Bool) (b : Bytes) (is : List Insn) (hpar : Parses b is) (hnofr : noFrame is = true)
    (st2 : PState) (r : PyVal) (hrun : prunFrom is { proto := if p ≥ 2 then p else 0, inFrame := framed } = .ok st2)
    (hs2 : st2.stack = [r]) (hlen : framed = true → (b ++ [46]).length ≤ 2 ^ 63 - 1) :
    pvmLoad ((if p ≥ 2 then [0x80, UInt8.ofNat p] else []) ++
        ((if framed then 0x95 :: le8 (b ++ [46]).length else []) ++ (b ++ [46]))) = (.ok r, { st2 with stack := [] }, []) := by
  have hislen := parses_length_le hpar
  obtain ⟨fuel, hfuel, hhdr⟩ := pvmLoad_header p hp5
  have hbody : ∀ fuel, (b ++ [46]).length < fuel →
      pvmLoop fuel { proto := if p ≥ 2 then p else 0, inFrame := framed } (b ++ [46]) = (.ok r, { st2 with stack := [] }, []) := by
    intro fuel hf
    rw [pvmLoop_fuel fuel ((b ++ [46]).length + 1 + is.length) _ _ hf (by omega), pvmLoop_run is b _ st2 [46] _ hpar hnofr hrun]
    exact pvmLoop_stop _ st2 r [] [] hs2
  rw [hhdr]
  cases framed with
  | false => exact hbody _ (by simp; omega)
  | true =>
    obtain ⟨f, rfl⟩ := Nat.exists_eq_add_one_of_ne_zero (Nat.ne_of_gt hfuel)
    simp only [if_true, List.cons_append, List.length_cons, ← Nat.add_assoc]
    rw [pvmLoop_frame _ _ (b ++ ([46] : Bytes)).length (b ++ [46]) rfl (by simp) (hlen rfl) (Nat.le_refl _)]
    exact hbody _ (by simp; omega)

theorem pvmLoad_pushes (c : ECfg) (hp0 : 0 ≤ c.proto) (hp5 : c.proto ≤ 5) (b : Bytes) (P : List PObj → PyVal → Prop)
    (h : PPushes c b P) :
    ∃ r st, pvmLoad ((if 2 ≤ c.proto.toNat then [0x80, UInt8.ofNat c.proto.toNat] else []) ++ (b ++ [46])) = (.ok r, st, []) ∧
      P st.heap r := by
  obtain ⟨is, hpar, hnofr, hrun⟩ := h
  obtain ⟨st2, e2, _, r, hs2, hrep⟩ := hrun _ (pprotoOK_start c c.proto.toNat false (Int.toNat_of_nonneg hp0).symm)
  exact ⟨r, _, pvmLoad_run c.proto.toNat (by omega) false b is hpar hnofr st2 r e2 hs2 nofun, hrep⟩

/-- **C01 (what the bytes mean to CPython), all protocols.**  For every Go value `v` of the documented table — nil / None,
    bool, every integer type (int64, uint64, *big.Int), float, string, ByteString, Bytes, []byte, slices, Tuples, builtin maps,
    Dicts, Class, Call, Ref and pointers to the application struct, nested to any depth — every protocol 0..5 and both
    StrictUnicode settings: if `Encode` returns no error, the model of CPython's unpickler loads exactly the bytes written
    without raising, consumes them all, and returns an object that is (`PRep`: immutable values literally, lists / dicts /
    bytearrays as fresh objects with that content) the Python value `tableP c v` of the documented type table: numbers, text,
    byte payloads, key/value association (dict entries assigned in the order written, under Python equality) and nesting
    are those of `v`.  Hypotheses: `pyWF` (text written as unicode is valid UTF-8 — finding K3; a protocol-0 persistent id is
    ASCII — finding K5; dict keys are hashable in Python, at most one of them holds a NaN; a Call does not name one of the
    callables CPython executes, `_codecs.encode`, `bytes`, `bytearray`, which the encoder uses itself; payloads fit their
    length prefix), that LF is not printable (`hip`, a fact of the generated table), and at protocol 0 `FloatTextOK` for the
    floats in `v` (as in C03). -/
theorem C01_pvm_table (ip : IsPrint) (hip : ip 10 = false) (c : ECfg) (v : GoVal)
    (hp0 : 0 ≤ c.proto) (hp5 : c.proto ≤ 5)
    (hw : pyWF c v = true) (hf : FloatsOK c (floatsOf v)) (he : (encodeTop ip c none v).err = none) :
    ∃ r st, pvmLoad (flat (encodeTop ip c none v)) = (.ok r, st, []) ∧ PRep st.heap r (tableP c v) := by
  obtain ⟨hev, e⟩ := flat_encodeTop ip c v he
  rw [e]
  exact pvmLoad_pushes c hp0 hp5 _ _ (pt_val ip hip v hw hf hev)

/-- From protocol 1 on no text form is used: no hypothesis about floats. -/
theorem C01_pvm_table_bin (ip : IsPrint) (hip : ip 10 = false) (c : ECfg) (v : GoVal)
    (hp1 : 1 ≤ c.proto) (hp5 : c.proto ≤ 5) (hw : pyWF c v = true) (he : (encodeTop ip c none v).err = none) :
    ∃ r st, pvmLoad (flat (encodeTop ip c none v)) = (.ok r, st, []) ∧ PRep st.heap r (tableP c v) :=
  C01_pvm_table ip hip c v (by omega) hp5 hw (fun _ _ => Or.inl hp1) he

/-- Non-vacuity: a nested value with a Dict keyed by an int, a tuple holding a big int and a NaN, strings, a Call with bytes and
    a Ref, a bytearray, an unsigned 2^64-1 and an application object meets `pyWF` (StrictUnicode on, protocol 2). -/
example : pyWF { proto := 2, su := true }
    (.list [.dict [(.int 1, .str (sb "a")), (.tuple [.big 7 (2 ^ 70), .float 0x7ff8000000000001], .none), (.bytestr (sb "k"), .list [])],
            .call (sb "mod") (sb "fn") [.bytes [1, 2, 3], .ref (.str (sb "oid"))], .bytearray [0, 255], .uint (2 ^ 64 - 1), .user 5]) = true := by
  decide

/-- The same value at protocol 0 without StrictUnicode (the id of the Ref is ASCII). -/
example : pyWF { proto := 0, su := false }
    (.tuple [.map [(.int 1, .str (sb "a")), (.float 0, .none), (.str (sb "k"), .map [])], .big 3 (-5), .ref (.str (sb "oid"))]) = true := by
  decide

/-- **K3, on the machine.** A Go string that is not valid UTF-8, written as BINUNICODE (StrictUnicode on, protocol 2),
    makes CPython's unpickler raise: the hypothesis `strOK` of `C01_pvm_table` is needed. -/
theorem C01_K3_pvm (ip : IsPrint) :
    (encodeTop ip { proto := 2, su := true } none (.str [0xff])).err = none ∧
    (pvmLoad (flat (encodeTop ip { proto := 2, su := true } none (.str [0xff])))).1 = .error .exc := by
  constructor <;> rfl

/-- **K5, on the machine.** A persistent id that is a non-ASCII string, written at protocol 0 as PERSID, makes
    CPython's unpickler raise ("persistent IDs in protocol 0 must be ASCII strings"). -/
theorem C01_K5_pvm (ip : IsPrint) :
    (encodeTop ip { proto := 0, su := false } none (.ref (.str [0xc3, 0xa9]))).err = none ∧
    (pvmLoad (flat (encodeTop ip { proto := 0, su := false } none (.ref (.str [0xc3, 0xa9]))))).1 = .error .exc := by
  constructor <;> rfl

/-- **C01 with a PersistentRef hook.**  `Encode` with a hook writes exactly what it writes for the graph in which every
    application object the hook maps is replaced by its `Ref` (`substRefs`); so the bytes mean, to CPython, the table value
    of that graph: persistent references where the hook answered, the struct's fields where it did not. -/
theorem C01_pvm_table_hook (ip : IsPrint) (hip : ip 10 = false) (c : ECfg) (g : Nat → Option GoVal) (v : GoVal)
    (hp0 : 0 ≤ c.proto) (hp5 : c.proto ≤ 5)
    (hw : pyWF c (substRefs g v) = true) (hf : FloatsOK c (floatsOf (substRefs g v)))
    (he : (encodeTop ip c (some g) v).err = none) :
    ∃ r st, pvmLoad (flat (encodeTop ip c (some g) v)) = (.ok r, st, []) ∧ PRep st.heap r (tableP c (substRefs g v)) := by
  exact C01_pvm_table ip hip c (substRefs g v) hp0 hp5 hw hf he

/-- **The two unpicklers on the encoder's output.**  For a value in the domain of both theorems, og-rek's own decoder and
    CPython's unpickler both accept exactly the bytes `Encode` wrote: the first returns a value standing for `v` (C03), the
    second the Python value the type table assigns to `v` (C01) — the statement of C06 on the programs the encoder writes. -/
theorem C01_C03_agree (ip : IsPrint) (hip : ip 10 = false) (c : ECfg) (cfg : Cfg) (v : GoVal)
    (hp0 : 0 ≤ c.proto) (hp5 : c.proto ≤ 5) (hsu : cfg.su = c.su)
    (hc : canon cfg true v = true) (hw : pyWF c v = true) (hf : FloatsOK c (floatsOf v))
    (he : (encodeTop ip c none v).err = none) (st0 : DState) :
    (∃ r st', decode (goCfg cfg) none st0 (flat (encodeTop ip c none v)) = (.ok r, st', []) ∧ Rep (goCfg cfg) GoVal.ref st'.heap r v) ∧
    (∃ r st, pvmLoad (flat (encodeTop ip c none v)) = (.ok r, st, []) ∧ PRep st.heap r (tableP c v)) :=
  ⟨C03_roundtrip ip hip c cfg v hp0 hp5 hsu hc hf he st0, C01_pvm_table ip hip c v hp0 hp5 hw hf he⟩

end Ogorek
