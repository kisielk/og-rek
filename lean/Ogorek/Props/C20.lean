import Ogorek.Dict
import Ogorek.Decoder
import Ogorek.Encoder
import Ogorek.Generated.Facts

/-!
  C20 — Separate Encoders/Decoders and shared read-only values are concurrency-safe.

  What a theorem can carry: the *logical* non-interference. The package has no mutable
  package-level state (a fact regenerated from the source), so a Decoder / Encoder instance is a
  machine whose steps read and write only its own state; for such machines every interleaving
  of steps leaves each machine in the state it reaches alone (`C20_independent`). Reading a
  shared value is a pure function of it (`C20_readonly_*`). Data-race freedom in the sense of
  the Go memory model, and gomap's internals, are runtime behaviour: the check measures them
  with the race detector.
-/
namespace Ogorek

/-- **C20 (facts).** Every package-level variable is an error value created once with `errors.New`,
    none is assigned, incremented or has its address taken inside a function, and the only
    deferred calls are the `recover()` helpers of the two TryAssign functions; no goroutine is
    started by the package. -/
theorem C20_facts :
    (Generated.globalVars.all fun v => v.2 == "errors.New(…)") = true ∧
    Generated.globalWrites = [] ∧
    Generated.goAndDefer = ["ogorek.go:dictTryAssign defer", "ogorek.go:mapTryAssign defer"] := by
  decide

section Interleaving
variable {ι σ : Type} [DecidableEq ι]

/-- One step of machine `i`: only component `i` of the joint state changes. -/
def stepAt (step : ι → σ → σ) (s : ι → σ) (i : ι) : ι → σ :=
  fun j => if j = i then step i (s i) else s j

/-- Run a schedule (the sequence of machines that take a step). -/
def runSched (step : ι → σ → σ) (s : ι → σ) : List ι → (ι → σ)
  | [] => s
  | i :: rest => runSched step (stepAt step s i) rest

def iter (f : σ → σ) : Nat → σ → σ
  | 0, x => x
  | n + 1, x => iter f n (f x)

/-- **C20 (independence).** For machines that touch only their own state, whatever the
    interleaving, machine `i` ends in the state it reaches by taking its own steps alone: the
    schedule matters only through the number of steps `i` was given. -/
theorem C20_independent (step : ι → σ → σ) (sched : List ι) (s : ι → σ) (i : ι) :
    runSched step s sched i = iter (step i) (sched.count i) (s i) := by
  induction sched generalizing s with
  | nil => simp [runSched, iter]
  | cons j rest ih =>
    simp only [runSched]
    rw [ih]
    by_cases h : j = i
    · subst h
      simp [stepAt, iter]
    · have hne : ¬ i = j := fun e => h e.symm
      have hb : (j == i) = false := by simp [h]
      simp [stepAt, hne, List.count_cons, hb]

/-- Two schedules that give machine `i` the same number of steps agree on it — in particular the
    concurrent schedule and "one machine after another". -/
theorem C20_any_two_schedules (step : ι → σ → σ) (s1 s2 : List ι) (s : ι → σ) (i : ι)
    (h : s1.count i = s2.count i) : runSched step s s1 i = runSched step s s2 i := by
  rw [C20_independent, C20_independent, h]
end Interleaving

/-- **C20 (read-only Dict).** `Get` and `Del`-free reads return the table unchanged: concurrent
    readers of one Dict all see the value the sequential run sees. -/
theorem C20_readonly_get (pick : Entries → Nat) (es es' : Entries) (k : GoVal) (r : Option GoVal)
    (h : apiGet pick es k = .done es' r) : es' = es ∧ r = tableGet pick es k := by
  unfold apiGet at h
  split at h
  · simp at h; exact ⟨h.1.symm, h.2.symm⟩
  · simp at h

end Ogorek
