import Ogorek.Props.C07

/-!
  C08 — Dict is a correct map under every history of Set, Del, Get and Iter.

  `gomap.Map` is modelled by an abstract table (a list of entries) whose `Delete` and `Get` act
  on *some* entry equal to the query, chosen by an arbitrary function `pick` (this is what a
  bucket search gives when `equal a b → hash a = hash b` holds — C07_hash — and nothing more).
  Every theorem is for every `pick`.
-/
namespace Ogorek

theorem pick_spec {α : Type} (l : List α) (n : Nat) :
    (l = [] ∧ l[n % (if l.length = 0 then 1 else l.length)]? = none) ∨
    ∃ x ∈ l, l[n % (if l.length = 0 then 1 else l.length)]? = some x := by
  cases l with
  | nil => exact Or.inl ⟨rfl, rfl⟩
  | cons a r =>
    have hlt : n % (a :: r).length < (a :: r).length := Nat.mod_lt _ (Nat.succ_pos _)
    rw [if_neg (by simp : ¬ (a :: r).length = 0)]
    exact Or.inr ⟨_, List.getElem_mem hlt, List.getElem?_eq_getElem hlt⟩

theorem matching_eraseIdx_length (es : Entries) (q : GoVal) (i : Nat) (e : GoVal × GoVal)
    (hi : es[i]? = some e) (hm : goEqual q e.1 = true) :
    (matching (es.eraseIdx i) q).length + 1 = (matching es q).length ∧
    (es.eraseIdx i).filter (fun e => !goEqual q e.1) = es.filter (fun e => !goEqual q e.1) := by
  induction es generalizing i with
  | nil => cases hi
  | cons x xs ih =>
    cases i with
    | zero =>
      cases hi
      simp [matching, hm]
    | succ i =>
      obtain ⟨h1, h2⟩ := ih i hi
      unfold matching at h1 ⊢
      simp only [List.eraseIdx_cons_succ, List.filter_cons, h2, and_true]
      cases goEqual q x.1
      · exact h1
      · exact congrArg (· + 1) h1

theorem tableDelete_spec (pick : Entries → Nat) (es : Entries) (q : GoVal) :
    (matching es q = [] ∧ tableDelete pick es q = es) ∨
    (∃ i e, es[i]? = some e ∧ goEqual q e.1 = true ∧ tableDelete pick es q = es.eraseIdx i) := by
  unfold tableDelete
  generalize hms : (List.range es.length).filter (fun i => match es[i]? with
    | some e => goEqual q e.1
    | none => false) = ms
  dsimp only
  rcases pick_spec ms (pick es) with ⟨h0, h⟩ | ⟨i, hi, h⟩
  · refine Or.inl ⟨?_, by rw [h]⟩
    -- no index matches, so no entry matches
    apply List.filter_eq_nil_iff.mpr
    intro e he hq
    obtain ⟨i, hi, hie⟩ := List.getElem_of_mem he
    have : i ∈ ms := by
      rw [← hms, List.mem_filter, List.mem_range, List.getElem?_eq_getElem hi, hie]
      exact ⟨hi, hq⟩
    rw [h0] at this
    cases this
  · rw [← hms, List.mem_filter, List.mem_range] at hi
    obtain ⟨hlt, hq⟩ := hi
    rw [List.getElem?_eq_getElem hlt] at hq
    exact Or.inr ⟨i, es[i], List.getElem?_eq_getElem hlt, hq, by rw [h]⟩

theorem filter_not_eq_self {es : Entries} {q : GoVal} (h : matching es q = []) :
    es.filter (fun e => !goEqual q e.1) = es :=
  List.filter_eq_self.mpr fun x hx => by simpa using List.filter_eq_nil_iff.mp h x hx

/-- **C08 (Del).** Whatever the table picks, `Del` removes exactly the entries equal to its argument
    (the loop terminates: each round removes one of them). -/
theorem dictDelLoop_spec (pick : Entries → Nat) : ∀ (fuel : Nat) (es : Entries) (q : GoVal),
    (matching es q).length < fuel → dictDelLoop pick fuel es q = es.filter (fun e => !goEqual q e.1) := by
  intro fuel
  induction fuel with
  | zero => intro es q h; omega
  | succ fuel ih =>
    intro es q hf
    unfold dictDelLoop
    simp only
    rcases tableDelete_spec pick es q with ⟨hnone, hsame⟩ | ⟨i, e, hi, hm, hdel⟩
    · rw [hsame]
      simp only [hnone, List.isEmpty_nil, if_true]
      exact (filter_not_eq_self hnone).symm
    · rw [hdel]
      obtain ⟨hcount, hfilter⟩ := matching_eraseIdx_length es q i e hi hm
      split
      · rename_i hemp
        rw [← hfilter]
        exact (filter_not_eq_self (List.isEmpty_iff.mp hemp)).symm
      · rw [ih _ _ (by omega), hfilter]

theorem matching_length_le (es : Entries) (q : GoVal) : (matching es q).length ≤ es.length := by
  unfold matching; exact List.length_filter_le _ _

/-- `Dict.Del` in closed form, for every `pick`. -/
theorem C08_del (pick : Entries → Nat) (es : Entries) (q : GoVal) :
    dictDel pick es q = es.filter (fun e => !goEqual q e.1) := by
  unfold dictDel
  exact dictDelLoop_spec pick _ _ _ (by have := matching_length_le es q; omega)

/-- **C08 (Set).** `Set` first removes every entry whose key equals its argument, then adds the new
    one — for every `pick` this is the pick-free `dictSetSpec` the decoder model uses. -/
theorem C08_set (pick : Entries → Nat) (es : Entries) (k v : GoVal) :
    dictSet pick es k v = dictSetSpec es k v := by
  unfold dictSet dictSetSpec
  rw [C08_del]

theorem mem_dictSetSpec {es : Entries} {k v : GoVal} {e : GoVal × GoVal} :
    e ∈ dictSetSpec es k v ↔ (e ∈ es ∧ goEqual k e.1 = false) ∨ e = (k, v) := by
  simp [dictSetSpec]

/-- After `Set k v` the only entry equal to `k` (from `k`'s side) is the new one. -/
theorem C08_set_del (es : Entries) (k v : GoVal) (e : GoVal × GoVal) (he : e ∈ dictSetSpec es k v)
    (hq : goEqual k e.1 = true) : e = (k, v) := by
  rcases mem_dictSetSpec.mp he with ⟨_, h⟩ | h
  · rw [hq] at h; cases h
  · exact h

/-- After `Del k` no entry equal to `k` is left. -/
theorem C08_del_none (pick : Entries → Nat) (es : Entries) (k : GoVal) : matching (dictDel pick es k) k = [] := by
  rw [C08_del]
  unfold matching
  apply List.filter_eq_nil_iff.mpr
  intro e he
  simp only [List.mem_filter] at he
  simpa using he.2

inductive DictOp where
  | set (k v : GoVal)
  | del (k : GoVal)
  | get (k : GoVal)

def dictStep (pick : Entries → Nat) (es : Entries) : DictOp → Entries
  | .set k v => dictSet pick es k v
  | .del k => dictDel pick es k
  | .get _ => es

def NoEqualKeys (es : Entries) : Prop := es.Pairwise fun x y => goEqual x.1 y.1 = false

theorem NoEqualKeys.filter {es : Entries} (h : NoEqualKeys es) (p : GoVal × GoVal → Bool) : NoEqualKeys (es.filter p) :=
  List.Pairwise.filter p h

/-- **C08 (invariant, one step).** Set, Del and Get each keep the stored keys pairwise different, whatever the table picks. -/
theorem C08_inv_step (pick : Entries → Nat) (es : Entries) (op : DictOp) (h : NoEqualKeys es) :
    NoEqualKeys (dictStep pick es op) := by
  cases op with
  | get k => exact h
  | del k => simp only [dictStep, C08_del]; exact h.filter _
  | set k v =>
    simp only [dictStep, C08_set, dictSetSpec]
    unfold NoEqualKeys
    rw [List.pairwise_append]
    refine ⟨h.filter _, by simp, ?_⟩
    intro x hx y hy
    simp only [List.mem_filter] at hx
    simp only [List.mem_singleton] at hy
    subst hy
    -- x was kept because k is not equal to it; equality is symmetric
    have : goEqual k x.1 = false := by simpa using hx.2
    rw [C07_symm]; exact this

/-- **C08 (invariant).** After any sequence of Set, Del and Get on an empty Dict — for every way the
    table resolves its choices — no two stored keys are equal to each other. -/
theorem C08_inv (pick : Entries → Nat) (ops : List DictOp) : NoEqualKeys (ops.foldl (dictStep pick) []) := by
  suffices ∀ es, NoEqualKeys es → NoEqualKeys (ops.foldl (dictStep pick) es) from this [] List.Pairwise.nil
  induction ops with
  | nil => intro es h; exact h
  | cons op ops ih => intro es h; exact ih _ (C08_inv_step pick es op h)

/-- **C08 (Len / Iter).** In the model the table *is* the list of entries: `Len` is its length and `Iter`
    yields each entry once by definition, which is all the statement records. -/
theorem C08_len_iter (es : Entries) : es.length = (es.map id).length := by simp

/-- **C08 (Get, any).** `Get` returns the value of *an* entry whose key equals the query,
    and nothing if there is none. -/
theorem C08_get_any (pick : Entries → Nat) (es : Entries) (q : GoVal) :
    (matching es q = [] ∧ tableGet pick es q = none) ∨
    (∃ e ∈ es, goEqual q e.1 = true ∧ tableGet pick es q = some e.2) := by
  unfold tableGet
  dsimp only
  rcases pick_spec (matching es q) (pick es) with ⟨h0, h⟩ | ⟨e, he, h⟩
  · exact Or.inl ⟨h0, by rw [h]; rfl⟩
  · have hm := List.mem_filter.mp he
    exact Or.inr ⟨e, hm.1, hm.2, by rw [h]; rfl⟩

/-- If equality is transitive around the query (always, unless a ByteString meets both a `string`
    and a `Bytes` of the same content), at most one stored key equals it. -/
theorem C08_match_unique (es : Entries) (q : GoVal) (hinv : NoEqualKeys es)
    (htrans : ∀ e1 ∈ es, ∀ e2 ∈ es, goEqual q e1.1 = true → goEqual q e2.1 = true → goEqual e1.1 e2.1 = true) :
    (matching es q).length ≤ 1 := by
  unfold matching
  induction es with
  | nil => simp
  | cons x xs ih =>
    have hx := List.pairwise_cons.mp hinv
    have ih' := ih hx.2 (fun e1 h1 e2 h2 => htrans e1 (List.mem_cons_of_mem _ h1) e2 (List.mem_cons_of_mem _ h2))
    simp only [List.filter]
    cases hq : goEqual q x.1 with
    | false => simpa using ih'
    | true =>
      simp only [List.length_cons]
      have : xs.filter (fun e => goEqual q e.1) = [] := by
        apply List.filter_eq_nil_iff.mpr
        intro e he hqe
        have h1 := htrans x (by simp) e (List.mem_cons_of_mem _ he) hq hqe
        have h2 := hx.1 e he
        rw [h1] at h2; exact absurd h2 (by simp)
      rw [this]; simp

/-- **C08 (Get, most recent — partial).** Right after `Set k v`, a query equal to `k` and to no
    other stored key returns `v`, whatever the table picks. (With a ByteString query and both a
    `string` and a `Bytes` stored the answer is one of the candidates — finding K2.) -/
theorem C08_get_after_set (pick : Entries → Nat) (es : Entries) (k v q : GoVal) (hq : goEqual q k = true)
    (hother : ∀ e ∈ es, goEqual k e.1 = false → goEqual q e.1 = false) :
    tableGet pick (dictSetSpec es k v) q = some v := by
  rcases C08_get_any pick (dictSetSpec es k v) q with ⟨hnone, _⟩ | ⟨e, he, hm, hget⟩
  · exfalso
    unfold matching at hnone
    exact List.filter_eq_nil_iff.mp hnone (k, v) (mem_dictSetSpec.mpr (Or.inr rfl)) hq
  · rw [hget]
    rcases mem_dictSetSpec.mp he with ⟨hin, hk⟩ | rfl
    · rw [hother e hin hk] at hm; cases hm
    · rfl

/-- **K2 witness.** With `"a"` set to 1 and `Bytes("a")` set to 2, `Get(ByteString("a"))` may return
    1 (a table that probes the older entry first) although 2 was set most recently: the full
    "most recently set" statement is false for the non-transitive ByteString. -/
theorem C08_K2_witness :
    let es := dictSetSpec (dictSetSpec [] (.str [97]) (.int 1)) (.bytes [97]) (.int 2)
    es.length = 2 ∧ tableGet (fun _ => 0) es (.bytestr [97]) = some (.int 1) ∧
    tableGet (fun _ => 1) es (.bytestr [97]) = some (.int 2) :=
  ⟨rfl, rfl, rfl⟩

end Ogorek
