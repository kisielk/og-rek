import Ogorek.Reflect
import Ogorek.Props.C03N
import Ogorek.Props.C01Pvm
import Ogorek.Props.C12

/-!
  # The reflect universe reduces to the plain one

  `encR` is the encoder over reflect-level values (typed slices and arrays, maps of any key type, pointers and pointer chains, nil
  pointers and interfaces, structs with exported / unexported / tagged fields).  `lower` names, for each such value, the plain value
  that is written identically (`encR_lower`): a pointer is its pointee, a nil pointer or interface is None, a slice or array is a
  list, a byte array a bytearray, a struct the map of its emitted fields (tag names if any exported field is tagged).  Hence
  the round-trip / normal-form theorem (C03) and the CPython theorem (C01) hold for the reflect universe too.
-/
namespace Ogorek

mutual
/-- The plain value written identically, if the value is encodable at all. -/
def lower : RVal → Option GoVal
  | .val v => some v
  | .unsupported _ => none
  | .invalid => some .none
  | .zero => none
  | .seq xs => match lowerList xs with
    | some ys => some (.list ys)
    | none => none
  | .tuple xs => match lowerList xs with
    | some ys => some (.tuple ys)
    | none => none
  | .bytearr bs => some (.bytearray bs)
  | .map kvs => match lowerPairs kvs with
    | some es => some (.map es)
    | none => none
  | .ptr v => lower v
  | .strct fields => match lowerFields (fields.any fun f => f.2.1 && f.2.2.1.isSome) fields with
    | some es => if es.isEmpty then none else some (.map es)     -- a struct without emitted fields is written `(d`: see `encR_empty_struct`
    | none => none
def lowerList : List RVal → Option (List GoVal)
  | [] => some []
  | x :: xs => match lower x, lowerList xs with
    | some a, some as => some (a :: as)
    | _, _ => none
def lowerPairs : List (RVal × RVal) → Option (List (GoVal × GoVal))
  | [] => some []
  | (k, v) :: r => match lower k, lower v, lowerPairs r with
    | some a, some b, some es => some ((a, b) :: es)
    | _, _, _ => none
def lowerFields (tagged : Bool) : List (Bytes × Bool × Option Bytes × RVal) → Option (List (GoVal × GoVal))
  | [] => some []
  | (name, exported, tag, v) :: r =>
    if !exported then lowerFields tagged r
    else if tagged then
      match tag with
      | some t => match lower v, lowerFields tagged r with
        | some b, some es => some ((.str t, b) :: es)
        | _, _ => none
      | none => lowerFields tagged r
    else match lower v, lowerFields tagged r with
      | some b, some es => some ((.str name, b) :: es)
      | _, _ => none
end

theorem nil_seq (a : Out) : Out.nil +> a = a := by
  simp [Out.seq, Out.nil]

theorem lowerList_cons_inv {x : RVal} {xs : List RVal} {ys : List GoVal} (h : lowerList (x :: xs) = some ys) :
    ∃ a as, lower x = some a ∧ lowerList xs = some as ∧ ys = a :: as := by
  dsimp only [lowerList] at h
  cases h1 : lower x with
  | none => rw [h1] at h; cases h
  | some a =>
    cases h2 : lowerList xs with
    | none => rw [h1, h2] at h; cases h
    | some as => rw [h1, h2] at h; exact ⟨a, as, rfl, rfl, (Option.some.inj h).symm⟩

theorem lowerPairs_cons_inv {k w : RVal} {r : List (RVal × RVal)} {es : List (GoVal × GoVal)} (h : lowerPairs ((k, w) :: r) = some es) :
    ∃ a b es', lower k = some a ∧ lower w = some b ∧ lowerPairs r = some es' ∧ es = (a, b) :: es' := by
  dsimp only [lowerPairs] at h
  cases h1 : lower k with
  | none => rw [h1] at h; cases h
  | some a =>
    cases h2 : lower w with
    | none => rw [h1, h2] at h; cases h
    | some b =>
      cases h3 : lowerPairs r with
      | none => rw [h1, h2, h3] at h; cases h
      | some es' => rw [h1, h2, h3] at h; exact ⟨a, b, es', rfl, rfl, rfl, (Option.some.inj h).symm⟩

theorem lowerList_length : ∀ (xs : List RVal) (ys : List GoVal), lowerList xs = some ys → xs.length = ys.length
  | [], _, h => by cases h; rfl
  | _ :: xs, _, h => by
    obtain ⟨_, as, _, h2, rfl⟩ := lowerList_cons_inv h
    exact congrArg (· + 1) (lowerList_length xs as h2)

theorem lowerPairs_length : ∀ (kvs : List (RVal × RVal)) (es : List (GoVal × GoVal)), lowerPairs kvs = some es → kvs.length = es.length
  | [], _, h => by cases h; rfl
  | (_, _) :: r, _, h => by
    obtain ⟨_, _, es', _, _, h3, rfl⟩ := lowerPairs_cons_inv h
    exact congrArg (· + 1) (lowerPairs_length r es' h3)

mutual
theorem encR_lower (ip : IsPrint) (c : ECfg) : ∀ (rv : RVal) (v : GoVal), lower rv = some v → encR ip c rv = enc ip c v
  | .val _ => fun _ h => by cases h; rfl
  | .invalid => fun _ h => by cases h; rfl
  | .bytearr _ => fun _ h => by cases h; rfl
  | .unsupported _ | .zero => fun _ h => by cases h
  | .ptr w => fun v h => encR_lower ip c w v h
  | .seq xs => fun v h => by
    dsimp only [lower] at h
    cases hl : lowerList xs with
    | none => rw [hl] at h; cases h
    | some ys =>
      rw [hl] at h; cases h
      dsimp only [encR, enc]
      rw [encRList_lower ip c xs ys hl, lowerList_length xs ys hl]
  | .tuple xs => fun v h => by
    dsimp only [lower] at h
    cases hl : lowerList xs with
    | none => rw [hl] at h; cases h
    | some ys =>
      rw [hl] at h; cases h
      dsimp only [encR, enc]
      rw [encRList_lower ip c xs ys hl, lowerList_length xs ys hl]
  | .map kvs => fun v h => by
    dsimp only [lower] at h
    cases hl : lowerPairs kvs with
    | none => rw [hl] at h; cases h
    | some es =>
      rw [hl] at h; cases h
      dsimp only [encR, enc]
      rw [encRPairs_lower ip c kvs es hl, lowerPairs_length kvs es hl]
  | .strct fields => fun v h => by
    dsimp only [lower] at h
    cases hl : lowerFields (fields.any fun f => f.2.1 && f.2.2.1.isSome) fields with
    | none => rw [hl] at h; cases h
    | some es =>
      rw [hl] at h
      cases es with
      | nil => cases h
      | cons e es' =>
        cases h
        dsimp only [encR, enc]
        rw [encRFields_lower ip c _ fields _ hl, if_neg (fun hh => absurd hh.2 (Nat.succ_ne_zero _))]
theorem encRList_lower (ip : IsPrint) (c : ECfg) : ∀ (xs : List RVal) (ys : List GoVal), lowerList xs = some ys →
    encRList ip c xs = encList ip c ys
  | [], _, h => by cases h; rfl
  | x :: xs, _, h => by
    obtain ⟨a, as, h1, h2, rfl⟩ := lowerList_cons_inv h
    dsimp only [encRList, encList]
    rw [encR_lower ip c x a h1, encRList_lower ip c xs as h2]
theorem encRPairs_lower (ip : IsPrint) (c : ECfg) : ∀ (kvs : List (RVal × RVal)) (es : List (GoVal × GoVal)), lowerPairs kvs = some es →
    encRPairs ip c kvs = encPairs ip c es
  | [], _, h => by cases h; rfl
  | (k, w) :: r, _, h => by
    obtain ⟨a, b, es', h1, h2, h3, rfl⟩ := lowerPairs_cons_inv h
    dsimp only [encRPairs, encPairs]
    rw [encR_lower ip c k a h1, encR_lower ip c w b h2, encRPairs_lower ip c r es' h3]
theorem encRFields_lower (ip : IsPrint) (c : ECfg) (tagged : Bool) : ∀ (fs : List (Bytes × Bool × Option Bytes × RVal)) (es : List (GoVal × GoVal)),
    lowerFields tagged fs = some es → encRFields ip c tagged fs = encPairs ip c es
  | [], _, h => by cases h; rfl
  | (name, exported, tag, w) :: r, es, h => by
    cases exported with
    | false => exact (nil_seq _).trans (encRFields_lower ip c tagged r es h)
    | true =>
      cases tagged with
      | true =>
        cases tag with
        | none => exact (nil_seq _).trans (encRFields_lower ip c true r es h)
        | some t =>
          change (match lower w, lowerFields true r with | some b, some es => some ((GoVal.str t, b) :: es) | _, _ => none) = some es at h
          cases h1 : lower w <;> cases h2 : lowerFields true r <;> rw [h1, h2] at h <;> cases h
          change encodeString ip c t +> encR ip c w +> encRFields ip c true r = _
          rw [encR_lower ip c w _ h1, encRFields_lower ip c true r _ h2]
          rfl
      | false =>
        change (match lower w, lowerFields false r with | some b, some es => some ((GoVal.str name, b) :: es) | _, _ => none) = some es at h
        cases h1 : lower w <;> cases h2 : lowerFields false r <;> rw [h1, h2] at h <;> cases h
        change encodeString ip c name +> encR ip c w +> encRFields ip c false r = _
        rw [encR_lower ip c w _ h1, encRFields_lower ip c false r _ h2]
        rfl
end

theorem encodeTopR_lower (ip : IsPrint) (c : ECfg) (rv : RVal) (v : GoVal) (h : lower rv = some v) :
    encodeTopR ip c rv = encodeTop ip c none v := by
  simp [encodeTopR, encodeTop, encR_lower ip c rv v h]

/-- **C03 for the reflect universe.** A reflect-level value that is encodable (`lower rv = some v`) — typed slices, arrays, maps
    of any key type, pointer chains, nil pointers / interfaces, structs with tagged or untagged fields, nested to any depth —
    round-trips to the documented normal form of the plain value it is written as: `Decode(Encode(rv))` represents `norm v`. -/
theorem C03_normal_form_reflect (ip : IsPrint) (hip : ip 10 = false) (c : ECfg) (cfg : Cfg) (rv : RVal) (v : GoVal)
    (hl : lower rv = some v) (hp0 : 0 ≤ c.proto) (hp5 : c.proto ≤ 5) (hsu : cfg.su = c.su)
    (hc : canon cfg true (norm v) = true) (hf : FloatsOK c (floatsOf v)) (he : (encodeTopR ip c rv).err = none) (st0 : DState) :
    ∃ r st', decode (goCfg cfg) none st0 (flat (encodeTopR ip c rv)) = (.ok r, st', []) ∧
      Rep (goCfg cfg) GoVal.ref st'.heap r (norm v) := by
  rw [encodeTopR_lower ip c rv v hl] at he ⊢
  exact C03_normal_form ip hip c cfg v hp0 hp5 hsu hc hf he st0

/-- **C01 for the reflect universe.** The bytes written for an encodable reflect-level value mean, to CPython's unpickler, the
    table value of the plain value it is written as. -/
theorem C01_pvm_table_reflect (ip : IsPrint) (hip : ip 10 = false) (c : ECfg) (rv : RVal) (v : GoVal)
    (hl : lower rv = some v) (hp0 : 0 ≤ c.proto) (hp5 : c.proto ≤ 5)
    (hw : pyWF c v = true) (hf : FloatsOK c (floatsOf v)) (he : (encodeTopR ip c rv).err = none) :
    ∃ r st, pvmLoad (flat (encodeTopR ip c rv)) = (.ok r, st, []) ∧ PRep st.heap r (tableP c v) := by
  rw [encodeTopR_lower ip c rv v hl] at he ⊢
  exact C01_pvm_table ip hip c v hp0 hp5 hw hf he

/-- A struct none of whose fields is emitted (no exported field, or only untagged ones beside a tagged unexported…) is written
    `MARK DICT`: an empty dict, at every protocol. -/
theorem encR_empty_struct (ip : IsPrint) (c : ECfg) (fields : List (Bytes × Bool × Option Bytes × RVal))
    (h : lowerFields (fields.any fun f => f.2.1 && f.2.2.1.isSome) fields = some []) :
    encR ip c (.strct fields) = emit [40] +> Out.nil +> emit [100] := by
  simp only [encR, encRFields_lower ip c _ fields [] h, encPairs]

/-- Non-vacuity: a pointer to a struct with a tagged and an untagged exported field and an unexported one, holding a typed slice,
    a nil pointer and a byte array, lowers to the map of its tagged field only. -/
example : lower (.ptr (.strct [(sb "A", true, some (sb "a"), .seq [.val (.int 1), .invalid, .bytearr [1, 2]]),
      (sb "B", true, none, .val (.int 2)), (sb "c", false, none, .zero)])) =
    some (.map [(.str (sb "a"), .list [.int 1, .none, .bytearray [1, 2]])]) := rfl

/-- **C12 for the reflect universe.** The output for an encodable reflect-level value (structs, typed containers, pointers) passes the
    independent opcode scanner at every protocol. -/
theorem C12_conforms_reflect (ip : IsPrint) (hip : ip 10 = false) (c : ECfg) (rv : RVal) (v : GoVal)
    (hl : lower rv = some v) (hp0 : 0 ≤ c.proto) (hp5 : c.proto ≤ 5)
    (hs : sizesOK v = true) (he : (encodeTopR ip c rv).err = none) :
    conforms c.proto.toNat (flat (encodeTopR ip c rv)) = .ok () := by
  rw [encodeTopR_lower ip c rv v hl] at he ⊢
  exact C12_conforms ip hip c v hp0 hp5 hs he

end Ogorek
