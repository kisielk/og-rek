import Ogorek.Props.C11
import Ogorek.Props.C03

/-!
  C11 for streams written by the encoder: each element decodes to its own value whatever the
  earlier elements left in the decoder (heap of containers, id supply) — the "pure renaming"
  independence, for every pickle `Encode` can write.
-/
namespace Ogorek

/-- The bytes of a stream of `Encode` calls (each with its own protocol / StrictUnicode setting). -/
def encStream (ip : IsPrint) : List (ECfg × GoVal) → Bytes
  | [] => []
  | (c, v) :: r => flat (encodeTop ip c none v) ++ encStream ip r

/-- What `C03_roundtrip` asks of one element. -/
def ElemOK (ip : IsPrint) (cfg : Cfg) (it : ECfg × GoVal) : Prop :=
  0 ≤ it.1.proto ∧ it.1.proto ≤ 5 ∧ cfg.su = it.1.su ∧ canon cfg true it.2 = true ∧
    FloatsOK it.1 (floatsOf it.2) ∧ (encodeTop ip it.1 none it.2).err = none

def AllRep (cfg : Cfg) : List GoVal → List (ECfg × GoVal) → Prop
  | [], [] => True
  | r :: rs, it :: its => (∃ h, Rep (goCfg cfg) GoVal.ref h r it.2) ∧ AllRep cfg rs its
  | _, _ => False

/-- **C11 (streams of encoded values).** Decoding the concatenation of any number of `Encode` outputs
    — each at its own protocol — through one Decoder, starting from ANY decoder state, returns one
    value per call, each representing exactly the value that was encoded (`Rep`, in the heap at the
    time of that call), and then `io.EOF`.  In particular what earlier pickles left behind (heap
    objects, big-int ids, memo) does not influence a later element. -/
theorem C11_encoded_stream (ip : IsPrint) (hip : ip 10 = false) (cfg : Cfg) :
    ∀ (items : List (ECfg × GoVal)) (st : DState), (∀ it ∈ items, ElemOK ip cfg it) →
      ∃ rs : List GoVal, decodeStream (goCfg cfg) none (items.length + 1) st (encStream ip items) =
          rs.map .ok ++ [.error .eof] ∧
        AllRep cfg rs items := by
  intro items
  induction items with
  | nil =>
    intro st _
    exact ⟨[], by simp [encStream, C11_then_eof], trivial⟩
  | cons it items ih =>
    intro st hall
    obtain ⟨c, v⟩ := it
    obtain ⟨hp0, hp5, hsu, hc, hf, he⟩ := hall (c, v) (by simp)
    obtain ⟨r, st', hdec, hrep⟩ := C03_roundtrip ip hip c cfg v hp0 hp5 hsu hc hf he st
    obtain ⟨rs, hrs, hall2⟩ := ih st' (fun x hx => hall x (by simp [hx]))
    refine ⟨r :: rs, ?_, ⟨⟨_, hrep⟩, hall2⟩⟩
    simp only [encStream, List.length_cons]
    rw [C11_stream (goCfg cfg) none _ st _ _ r st' hdec, hrs]
    simp

end Ogorek
