import Ogorek.Props.C07
import Ogorek.Props.C08F

/-!
  C07 (continued) — reflexivity.  `equal a a` holds for every value that holds no NaN and none of
  the kinds `equal` never accepts (maps, Dicts, untyped nil): exactly Python's `x == x` for
  hashable NaN-free keys.  With it, "Set k v; Get k" returns `v` outright (C08_get_set_same).
-/
namespace Ogorek

mutual
/-- No NaN anywhere inside, and no kind on which `equal` is constantly false. -/
def reflOK : GoVal → Bool
  | .float f => !f.isNaN
  | .complex re im => !re.isNaN && !im.isNaN
  | .tuple xs => reflOKList xs
  | .list xs => reflOKList xs
  | .call _ _ args => reflOKList args
  | .ref p => reflOK p
  | .map _ => false
  | .dict _ => false
  | .nil => false
  | .cycle => false
  | _ => true
def reflOKList : List GoVal → Bool
  | [] => true
  | x :: xs => reflOK x && reflOKList xs
end

theorem F64.eq_self (f : F64) (h : f.isNaN = false) : F64.eq f f = true :=
  (F64.eq_iff f f).mpr ⟨h, h, Or.inl rfl⟩

theorem F64.eq_self_iff (f : F64) : F64.eq f f = true ↔ f.isNaN = false :=
  ⟨fun h => ((F64.eq_iff f f).mp h).1, F64.eq_self f⟩

theorem C07_refl_leaf : ∀ a : GoVal, (eqView a).isLeaf = true → reflOK a = true → goEqual a a = true
  | .mark, _, _ | .none, _, _ => rfl
  | .nil, _, h | .cycle, _, h | .map _, _, h | .dict _, _, h => by cases h
  | .bool x, _, _ => beq_self_eq_true (bint x)
  | .int x, _, _ | .big _ x, _, _ => beq_self_eq_true x
  | .uint x, _, _ | .user x, _, _ | .href x, _, _ => beq_self_eq_true x
  | .float x, _, h => F64.eq_self x ((Bool.not_eq_true' _).mp h)
  | .complex x y, _, h =>
    have h := Bool.and_eq_true_iff.mp h
    Bool.and_eq_true_iff.mpr ⟨F64.eq_self x ((Bool.not_eq_true' _).mp h.1), F64.eq_self y ((Bool.not_eq_true' _).mp h.2)⟩
  | .str x, _, _ | .bytestr x, _, _ | .bytes x, _, _ | .bytearray x, _, _ => beq_self_eq_true x
  | .cls m n, _, _ => Bool.and_eq_true_iff.mpr ⟨beq_self_eq_true m, beq_self_eq_true n⟩
  | .tuple _, hl, _ | .list _, hl, _ | .call _ _ _, hl, _ | .ref _, hl, _ => by cases hl

theorem C07_refl_parts :
    PartsStep (fun a => reflOK a = true → goEqual a a = true)
      (fun xs => reflOKList xs = true → goEqualList xs xs = true) := by
  refine ⟨fun _ ih => ih, fun _ ih => ih, ?_, fun _ ih => ih, C07_refl_leaf, fun _ => rfl, ?_⟩
  · intro m n args ih h
    simp only [goEqual, beq_self_eq_true, Bool.true_and]
    exact ih h
  · intro x xs ihx ihxs h
    have h := Bool.and_eq_true_iff.mp h
    exact Bool.and_eq_true_iff.mpr ⟨ihx h.1, ihxs h.2⟩

/-- **C07 (reflexivity).** `equal a a` holds of every key without a NaN float inside (`reflOK`). -/
theorem C07_refl : ∀ a : GoVal, reflOK a = true → goEqual a a = true := C07_refl_parts.val

theorem goEqualList_refl : ∀ xs : List GoVal, reflOKList xs = true → goEqualList xs xs = true := C07_refl_parts.lst

/-- A NaN is the counterexample the hypothesis excludes: `equal(nan, nan)` is false, as in Python. -/
theorem C07_refl_nan (f : F64) (h : f.isNaN = true) : goEqual (.float f) (.float f) = false := by
  have : F64.eq f f = false := by
    cases hh : F64.eq f f with
    | false => rfl
    | true => rw [(F64.eq_self_iff f).mp hh] at h; exact absurd h (by simp)
  simp [goEqual, strKind?, numOf?, numEq, eqFloatFloat, this]

/-- **C08 (Set then Get, same key).** For a NaN-free key, `Get k` right after `Set k v` returns `v`
    whatever the table picks and whatever else is stored. -/
theorem C08_get_set_same (pick pick' : Entries → Nat) (es : Entries) (k v : GoVal) (hk : reflOK k = true) :
    tableGet pick' (dictSet pick es k v) k = some v := by
  rw [C08_set]
  exact C08_get_after_set pick' es k v k (C07_refl k hk) (fun _ _ h => h)

mutual
def noNaN : GoVal → Bool
  | .float f => !f.isNaN
  | .complex re im => !re.isNaN && !im.isNaN
  | .tuple xs => noNaNList xs
  | .list xs => noNaNList xs
  | .call _ _ args => noNaNList args
  | .ref p => noNaN p
  | _ => true
def noNaNList : List GoVal → Bool
  | [] => true
  | x :: xs => noNaN x && noNaNList xs
end

theorem reflOK_of_hashable_parts :
    PartsStep (fun a => (hashTree a).isSome = true → noNaN a = true → reflOK a = true)
      (fun xs => (hashTreeList xs).isSome = true → noNaNList xs = true → reflOKList xs = true) := by
  refine ⟨fun _ ih h hn => ih (Option.isSome_map.symm.trans h) hn, (fun _ _ h => by cases h),
    fun _ _ _ ih h hn => ih (Option.isSome_map.symm.trans h) hn, fun _ ih h hn => ih (Option.isSome_map.symm.trans h) hn,
    ?_, fun _ _ => rfl, ?_⟩
  · intro a hl h hn
    cases a <;> first | rfl | exact hn | cases h | cases hl
  · intro x xs ihx ihxs h hn
    have hn := Bool.and_eq_true_iff.mp hn
    rw [hashTreeList_cons_isSome, Bool.and_eq_true] at h
    exact Bool.and_eq_true_iff.mpr ⟨ihx h.1 hn.1, ihxs h.2 hn.2⟩

/-- Every hashable value without a NaN inside is in the domain of `C07_refl`: the kinds `equal`
    never accepts are exactly kinds `hash` panics on. -/
theorem reflOK_of_hashable : ∀ a : GoVal, (hashTree a).isSome = true → noNaN a = true → reflOK a = true :=
  reflOK_of_hashable_parts.val

theorem reflOKList_of_hashable : ∀ xs : List GoVal, (hashTreeList xs).isSome = true → noNaNList xs = true →
    reflOKList xs = true := reflOK_of_hashable_parts.lst

/-- **C07 (reflexivity on keys).** Every key a Dict accepts (hashable) that holds no NaN equals itself. -/
theorem C07_refl_hashable (a : GoVal) (h : hashable a = true) (hn : noNaN a = true) : goEqual a a = true :=
  C07_refl a (reflOK_of_hashable a h hn)

/-- **C08 (Set then Get, any accepted key).** For every key the Dict accepts that holds no NaN,
    `Get k` right after `Set k v` returns `v`. -/
theorem C08_get_set_hashable (pick pick' : Entries → Nat) (es : Entries) (k v : GoVal)
    (h : hashable k = true) (hn : noNaN k = true) : tableGet pick' (dictSet pick es k v) k = some v :=
  C08_get_set_same pick pick' es k v (reflOK_of_hashable k h hn)

example : reflOK (.tuple [.int 1, .str [97], .float 0, .tuple [.none, .bool true]]) = true := rfl

end Ogorek
