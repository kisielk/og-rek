import Ogorek.Lemmas.NoPanic
import Ogorek.Lemmas.Reader
import Ogorek.Lemmas.Step
import Ogorek.Lemmas.Loop
import Ogorek.Generated.Facts

/-!
  C04 — Decode is total and resource-safe on arbitrary bytes.  Every Go panic source is an explicit outcome
  of the model (`.panic`), so "no panic" is a statement about `decode`.
-/
namespace Ogorek


/-- Every instruction consumes at least its opcode byte. -/
theorem C04_consumes {inp : Bytes} {i : Insn} {rest : Bytes} (h : parseInsn inp = .ok (i, rest)) :
    rest.length < inp.length := by
  cases inp with
  | nil => simp [parseInsn, Rd.bind, readByte] at h
  | cons key r =>
    simp [parseInsn, Rd.bind, readByte] at h
    have := (good_parseArg key).length_le h
    simp; omega

theorem popUser_np' (st : DState) (w : String) : popUser st ≠ .error (.panic w) := popUser_np st w

theorem decodeLoop_no_panic (mc : MCfg) (hook : Hook) (fuel insn : Nat) (st : DState) (inp : Bytes) :
    inp.length < fuel → ∀ w, (decodeLoop mc hook fuel insn st inp).1 ≠ .error (.panic w) := by
  refine decodeLoop_induct (P := fun fuel _ _ inp res => inp.length < fuel → ∀ w, res.1 ≠ .error (.panic w))
    ?_ ?_ ?_ ?_ ?_ ?_ ?_ fuel insn st inp
  · exact fun h => absurd h (Nat.not_lt_zero _)
  · intro _ insn _ _ w
    split <;> nofun
  · intro _ _ _ key r e hp _ w h
    have he := Except.error.inj h
    split at he
    · cases he
    · exact parseArg_no_panic hp w he
  · exact fun _ _ _ _ => nofun
  · exact fun _ hu _ w h => (popUser_np _).of_error hu w (Except.error.inj h)
  · exact fun _ _ he _ w h => (exec_no_panic mc hook _ _ _).of_error he w (Except.error.inj h)
  · intro _ _ _ key _ _ _ _ hp _ _ ih hlen
    have hle := (good_parseArg key).length_le hp
    exact ih (by simp only [List.length_cons] at hlen; omega)

/-- **C04 (no panic).** Whatever the bytes, configuration, hook and prior decoder state. -/
theorem C04_no_panic (mc : MCfg) (hook : Hook) (st : DState) (inp : Bytes) (w : String) :
    (decode mc hook st inp).1 ≠ .error (.panic w) := by
  unfold decode
  exact decodeLoop_no_panic mc hook _ _ _ _ (by omega) w

theorem decodeLoop_fuel (mc : MCfg) (hook : Hook) :
    ∀ (fuel1 fuel2 insn : Nat) (st : DState) (inp : Bytes), inp.length < fuel1 → inp.length < fuel2 →
      decodeLoop mc hook fuel1 insn st inp = decodeLoop mc hook fuel2 insn st inp := by
  intro fuel1
  induction fuel1 with
  | zero => intro fuel2 insn st inp h; omega
  | succ fuel1 ih =>
    intro fuel2 insn st inp h1 h2
    cases fuel2 with
    | zero => omega
    | succ fuel2 =>
      cases inp with
      | nil => rfl
      | cons key r =>
        cases hp : parseArg key r with
        | error e => rw [decodeLoop_parse_err hp, decodeLoop_parse_err hp]
        | ok ir =>
          have hle := (good_parseArg key).length_le hp
          rw [decodeLoop_cons hp, decodeLoop_cons hp]
          split
          · rfl
          · simp only [List.length_cons] at h1 h2
            cases exec mc hook ir.1 (insn + 1) st with
            | ok st' => exact ih _ _ _ _ (by omega) (by omega)
            | error e => rfl

/-- **C04 (progress).** Each iteration consumes at least one byte, so `length + 1` iterations
    always suffice: any larger amount of fuel gives the same result (and by `C04_no_panic`
    that result is never the out-of-fuel outcome). -/
theorem C04_progress (mc : MCfg) (hook : Hook) (fuel insn : Nat) (st : DState) (inp : Bytes)
    (h : inp.length < fuel) :
    decodeLoop mc hook fuel insn st inp = decodeLoop mc hook (inp.length + 1) insn st inp :=
  decodeLoop_fuel mc hook _ _ _ _ _ h (by omega)


/-- **C04 (allocation).** What is pre-allocated on the strength of a length field alone never
    exceeds `maxgrow` = 64 KiB … -/
theorem C04_alloc (inp : Bytes) : preallocOf inp ≤ maxgrow := by
  have ite_le {c : Prop} [Decidable c] {a b : Nat} (ha : a ≤ maxgrow) (hb : b ≤ maxgrow) :
      (if c then a else b) ≤ maxgrow := by split <;> assumption
  have counted (r : Bytes) (n : Nat) : (if n ≤ r.length then min (leNat (r.take n)) maxgrow else 0) ≤ maxgrow :=
    ite_le (Nat.min_le_right _ _) (Nat.zero_le _)
  cases inp with
  | nil => exact Nat.zero_le _
  | cons key r => exact ite_le (counted r 4) (ite_le (counted r 8) (ite_le (counted r 1) (Nat.zero_le _)))

/-- … and a payload that is returned was entirely present in the input. -/
theorem C04_alloc_payload (n : Nat) {inp s rest : Bytes} (h : readCounted n inp = .ok (s, rest)) :
    s.length + rest.length ≤ inp.length := by
  unfold readCounted Rd.bind at h
  split at h
  · rename_i lb r1 h1
    have e1 := (good_readFull n).length_le h1
    dsimp only at h
    split at h
    · simp [Rd.fail] at h
    · unfold copyN at h
      split at h
      · simp at h
        obtain ⟨rfl, rfl⟩ := h
        simp
        omega
      · simp at h
  · simp at h


/-- Opcode bytes the decoder implements. -/
def supportedOpcodes : List UInt8 :=
  [40, 46, 48, 50, 70, 73, 74, 75, 76, 77, 78, 80, 81, 82, 83, 84, 85, 86, 88, 97, 99, 100, 125, 101, 103, 104,
   0x8a, 0x89, 0x88, 106, 108, 93, 112, 113, 114, 115, 116, 0x85, 0x86, 0x87, 41, 117, 71, 66, 67, 0x95, 0x8c,
   0x93, 0x94, 0x96, 0x97, 0x98, 0x80]

def unsupportedInsn (key : UInt8) : Insn :=
  if key = 49 then .popMark else if key = 98 then .build else if key = 105 then .inst
  else if key = 111 then .obj else .unknown key

theorem parseArg_unsupported {key : UInt8} (hk : key ∉ supportedOpcodes) : parseArg key = Rd.pure (unsupportedInsn key) := by
  simp only [supportedOpcodes, List.mem_cons, List.not_mem_nil, or_false, not_or] at hk
  unfold parseArg unsupportedInsn
  simp only [hk, ↓reduceIte, apply_ite Rd.pure]

theorem exec_unsupported (mc : MCfg) (hook : Hook) (key : UInt8) (pos : Nat) (st : DState) :
    (unsupportedInsn key).isStop = false ∧ exec mc hook (unsupportedInsn key) pos st = .error (.opcode key pos) := by
  unfold unsupportedInsn
  by_cases h1 : key = 49
  · subst h1; exact ⟨rfl, rfl⟩
  by_cases h2 : key = 98
  · subst h2; exact ⟨rfl, rfl⟩
  by_cases h3 : key = 105
  · subst h3; exact ⟨rfl, rfl⟩
  by_cases h4 : key = 111
  · subst h4; exact ⟨rfl, rfl⟩
  rw [if_neg h1, if_neg h2, if_neg h3, if_neg h4]
  exact ⟨rfl, rfl⟩

/-- **C04 (opcode).** Reaching an opcode byte outside the supported set — POP_MARK, BUILD,
    INST, OBJ included — ends `Decode` with `OpcodeError` carrying that byte. -/
theorem C04_opcode (mc : MCfg) (hook : Hook) (key : UInt8) (hk : key ∉ supportedOpcodes)
    (fuel insn : Nat) (st : DState) (r : Bytes) :
    (decodeLoop mc hook (fuel + 1) insn st (key :: r)).1 = .error (.opcode key (insn + 1)) := by
  have ⟨hs, he⟩ := exec_unsupported mc hook key (insn + 1) st
  rw [decodeLoop_cons (congrFun (parseArg_unsupported hk) r), hs, he]
  rfl

/-- **C04 (PROTO).** A PROTO opcode announcing a version above 5 is `ErrInvalidPickleVersion`. -/
theorem C04_proto (mc : MCfg) (hook : Hook) (v : UInt8) (hv : v > 5)
    (fuel insn : Nat) (st : DState) (r : Bytes) :
    (decodeLoop mc hook (fuel + 1) insn st (0x80 :: v :: r)).1 = .error .invalidVersion := by
  have hv' : ¬ v.toNat ≤ 5 := Nat.not_le.mpr (UInt8.lt_iff_toNat_lt.mp hv)
  have hp : parseArg 0x80 (v :: r) = .ok (.proto v.toNat, r) := rfl
  have he : exec mc hook (.proto v.toNat) (insn + 1) st = .error .invalidVersion := if_neg hv'
  rw [decodeLoop_cons hp, he]
  rfl


/-- The 68 opcodes of pickle protocols 0–5 (pickletools), by byte value. -/
def pickleOpcodeValues : List Nat :=
  [40, 41, 46, 48, 49, 50, 66, 67, 70, 71, 73, 74, 75, 76, 77, 78, 80, 81, 82, 83, 84, 85, 86, 88, 93, 97, 98, 99,
   100, 101, 103, 104, 105, 106, 108, 111, 112, 113, 114, 115, 116, 117, 125, 128, 129, 130, 131, 132, 133, 134,
   135, 136, 137, 138, 139, 140, 141, 142, 143, 144, 145, 146, 147, 148, 149, 150, 151, 152]

/-- **C04 (facts).** What the model assumes about constants is what the source says now. -/
theorem C04_facts :
    Generated.opcodeValues = pickleOpcodeValues ∧ Generated.maxgrow = (maxgrow : Int) ∧
    Generated.protoUpperBounds = ["5"] ∧ Generated.droppedErrors = [] := by
  decide

end Ogorek
