import Ogorek.Lemmas.CPickleRT
import Ogorek.Lemmas.CPickleSRT
import Ogorek.Props.C03
import Ogorek.CPickleOK

/-!
  C02 — what CPython's pickler writes for an object of the basic types, og-rek decodes to the
  documented Go value.  `cpDumps` / `cpDumpsFramed` are the model of `pickle.dumps` without and with its FRAME for
  tree-shaped objects (Ogorek/CPickle.lean), `cpDumpsS` / `cpDumpsFramedS` the model with the pickler's memo, for objects
  in which strings and bytes may repeat (Ogorek/CPickleS.lean); both are compared byte for byte with the real C pickler
  on every run.
-/
namespace Ogorek

theorem decode_runsP (mc : MCfg) (hook : Hook) (p : Nat) (hp5 : p ≤ 5) (fr : Bytes) (hfr : fr = [] ∨ ∃ n, fr = 0x95 :: le8 n)
    {b : Bytes} {Pre : DState → Prop} {Q : DState → DState → Prop} (h : RunsP mc hook (ecfg p) b Pre Q) (st0 : DState)
    (hpre : Pre { st0 with stack := [], proto := if p ≥ 2 then p else 0 }) :
    ∃ st2, Q { st0 with stack := [], proto := if p ≥ 2 then p else 0 } st2 ∧ ∀ r, st2.stack = [r] → isMark r = false →
      decode mc hook st0 ((if p ≥ 2 then [0x80, UInt8.ofNat p] else []) ++ fr ++ (b ++ [46])) = (.ok r, { st2 with stack := [] }, []) := by
  obtain ⟨n, hdec⟩ := decode_header mc hook p hp5 fr hfr
  obtain ⟨is, hpar, hrun⟩ := h
  obtain ⟨st2, e2, _, q⟩ := hrun n _ (protoOK_start (ecfg p) p rfl st0) hpre
  exact ⟨st2, q, fun r hs hm => hdec hpar st0 st2 r e2 hs hm⟩

/-- `I` is whatever memo invariant holds of the reset decoder when the object starts: none for tree-shaped objects,
    `MemoInv` where the pickler's memo is read. -/
theorem decode_dumps {mc : MCfg} (hook : Hook) (p : Nat) (hp5 : p ≤ 5) {σ τ : Type} {I : σ → DState → Prop} {s : σ} {v : PyObj}
    (o : Option (Bytes × τ)) (hsave : ∀ b t, o = some (b, t) → ∃ s', PushesG mc hook (ecfg p) I b v s s')
    (wrap : Bytes → Bytes)
    (hwrap : ∀ b, ∃ fr, (fr = [] ∨ ∃ n, fr = 0x95 :: le8 n) ∧ wrap b = (if p ≥ 2 then [0x80, UInt8.ofNat p] else []) ++ fr ++ b)
    (bs : Bytes) (hd : ((o.map fun r => r.1 ++ [46]).map wrap) = some bs)
    (st0 : DState) (hI : I s { st0 with stack := [], proto := if p ≥ 2 then p else 0 }) :
    ∃ r st', decode mc hook st0 bs = (.ok r, st', []) ∧ Rep mc GoVal.ref st'.heap r (goOf v) := by
  cases o with
  | none => simp at hd
  | some r0 =>
    simp only [Option.map_some, Option.some.injEq] at hd
    subst hd
    obtain ⟨s', h⟩ := hsave r0.1 r0.2 rfl
    obtain ⟨fr, hfr, e⟩ := hwrap (r0.1 ++ [46])
    obtain ⟨st2, ⟨_, r, hs, hrep, _⟩, hdec⟩ := decode_runsP mc hook p hp5 fr hfr h st0 hI
    rw [e]
    exact ⟨r, _, hdec r hs hrep.not_mark, RepG.toRep mc GoVal.ref r v hrep⟩

theorem unframed_wrap (p : Nat) (b : Bytes) : ∃ fr, (fr = [] ∨ ∃ n, fr = 0x95 :: le8 n) ∧
    (if p ≥ 2 then [0x80, UInt8.ofNat p] else []) ++ b = (if p ≥ 2 then [0x80, UInt8.ofNat p] else []) ++ fr ++ b :=
  ⟨[], Or.inl rfl, by rw [List.append_nil]⟩

/-- CPython's framing: no FRAME, or one around everything after PROTO. -/
theorem framed_wrap (p : Nat) (b : Bytes) : ∃ fr, (fr = [] ∨ ∃ n, fr = 0x95 :: le8 n) ∧
    (if p ≥ 2 then [0x80, UInt8.ofNat p] else []) ++ (if p ≥ 4 ∧ b.length ≥ 4 then 0x95 :: le8 b.length else []) ++ b =
      (if p ≥ 2 then [0x80, UInt8.ofNat p] else []) ++ fr ++ b := by
  refine ⟨_, ?_, rfl⟩
  split
  · exact Or.inr ⟨_, rfl⟩
  · exact Or.inl rfl

/-- **C02 (CPython's pickler, protocols 0–5).**  For every Python object built from None, bool, int, float,
    str, bytes, bytearray, tuple, list and dict, nested to any depth and of any size, in which no memoized
    object occurs twice, every protocol 0..5 and all four decoder configurations: if `pickle.dumps(obj, p)`
    is within the model (`cpDumps py p obj = some bs`: no LONG4 / BINUNICODE8 / BINBYTES8 — og-rek has none of
    them —, bytes from protocol 3 and bytearray from protocol 5 on, text that is valid UTF-8 at protocol 0),
    then `Decode` of exactly these bytes succeeds, consumes all of them and returns the documented Go value
    `goOf obj` (int64 for what fits 32 bits and *big.Int beyond, as the opcode dictates; string, Bytes, []byte,
    Tuple, []any, and map / Dict by mode with the dict's entries in order).  From any decoder state, with or
    without a PersistentLoad hook.
    Hypothesis `pkOK`: the keys of each dict are acceptable to the decoder's table and pairwise different
    for it (`keysOK`, as in C03); a bytearray is below 4 GiB; and at protocol 0 only, for each float
    `PyFloatTextOK` (ParseFloat reads Python's repr back — not proved, as `FloatTextOK` in C03). -/
theorem C02_pickler (cfg : Cfg) (hook : Hook) (py : Bool) (p : Nat) (hp5 : p ≤ 5) (v : PyObj) (bs : Bytes)
    (hok : pkOK cfg p v) (hd : cpDumps py p v = some bs) (st0 : DState) :
    ∃ r st', decode (goCfg cfg) hook st0 bs = (.ok r, st', []) ∧ Rep (goCfg cfg) GoVal.ref st'.heap r (goOf v) := by
  unfold cpDumps cpDumpsBody at hd
  exact decode_dumps hook p hp5 (I := ITriv) (o := cpSave py p v 0) (fun b n' hs => ⟨(), pk_val rfl py p v 0 b n' hok hs⟩)
    _ (unframed_wrap p) bs hd st0 trivial

/-- The same for the pickle as CPython frames it (protocol 4 and 5: one FRAME around everything after PROTO). -/
theorem C02_pickler_framed (cfg : Cfg) (hook : Hook) (py : Bool) (p : Nat) (hp5 : p ≤ 5) (v : PyObj) (bs : Bytes)
    (hok : pkOK cfg p v) (hd : cpDumpsFramed py p v = some bs) (st0 : DState) :
    ∃ r st', decode (goCfg cfg) hook st0 bs = (.ok r, st', []) ∧ Rep (goCfg cfg) GoVal.ref st'.heap r (goOf v) := by
  unfold cpDumpsFramed cpDumpsBody at hd
  exact decode_dumps hook p hp5 (I := ITriv) (o := cpSave py p v 0) (fun b n' hs => ⟨(), pk_val rfl py p v 0 b n' hok hs⟩)
    _ (framed_wrap p) bs hd st0 trivial

/-- **C02 (CPython's pickler with its memo read, protocols 0–5).**  As `C02_pickler`, for objects in which str, bytes
    and bytearray objects may occur any number of times — the pickler then writes them once and fetches them with
    BINGET / LONG_BINGET / GET afterwards — and with bytes at protocols 0-2 and bytearray at protocols 0-4, which
    CPython writes as `_codecs.encode(text, 'latin1')`, `bytes()`, `bytearray(bytes)` through globals (and the string
    `'latin1'`) that are memoized at their first use and fetched later.  Identities are part of the object (`PyObjS`).
    `hfresh`: the Decoder's memo is empty, as a new Decoder's is — MEMOIZE numbers entries by the size of the memo
    (finding K7).  Containers remain tree-shaped (a list fetched twice is finding K1). -/
theorem C02_pickler_shared (cfg : Cfg) (hook : Hook) (mz : Option PKey → Bool) (py : Bool) (p : Nat) (hp5 : p ≤ 5) (v : PyObjS) (bs : Bytes)
    (hok : pkOK cfg p (erase v)) (hd : cpDumpsFramedS mz py p v = some bs) (st0 : DState) (hfresh : st0.memo = []) :
    ∃ r st', decode (goCfg cfg) hook st0 bs = (.ok r, st', []) ∧ Rep (goCfg cfg) GoVal.ref st'.heap r (goOf (erase v)) := by
  unfold cpDumpsFramedS cpDumpsBodyS at hd
  exact decode_dumps hook p hp5 (o := cpSaveS mz py p v ⟨0, []⟩) (fun b s' hs => ⟨s', sk_val rfl py p v ⟨0, []⟩ b s' hok hs⟩)
    _ (framed_wrap p) bs hd st0 (MemoInv.init p _ hfresh)

/-- The same without the frame (what is left of a CPython pickle when its FRAME opcodes are taken out). -/
theorem C02_pickler_shared_unframed (cfg : Cfg) (hook : Hook) (mz : Option PKey → Bool) (py : Bool) (p : Nat) (hp5 : p ≤ 5) (v : PyObjS) (bs : Bytes)
    (hok : pkOK cfg p (erase v)) (hd : cpDumpsS mz py p v = some bs) (st0 : DState) (hfresh : st0.memo = []) :
    ∃ r st', decode (goCfg cfg) hook st0 bs = (.ok r, st', []) ∧ Rep (goCfg cfg) GoVal.ref st'.heap r (goOf (erase v)) := by
  unfold cpDumpsS cpDumpsBodyS at hd
  exact decode_dumps hook p hp5 (o := cpSaveS mz py p v ⟨0, []⟩) (fun b s' hs => ⟨s', sk_val rfl py p v ⟨0, []⟩ b s' hok hs⟩)
    _ (unframed_wrap p) bs hd st0 (MemoInv.init p _ hfresh)

/-- Non-vacuity: a nested object — a dict keyed by an int, a str and a tuple holding a big int, with list,
    bytes and float values — meets the hypothesis in PyDict mode and is within the pickler model at protocol 4;
    and a dict with plain keys in map mode at protocol 2.  `pkOKb` is `pkOK` as a Boolean, the protocol-0 float text
    left out (`pkOK_of_b`, `pkOK_of_bf` in Props/C06Dec.lean). -/
example : pkOKb { pyDict := true, su := true }
    (.list [.dict [(.int 1, .str (sb "a")), (.str (sb "k"), .list [.none, .bool true, .float 0x3ff8000000000000]),
                   (.tuple [.int (2 ^ 70), .int (-5)], .bytes [1, 2, 3])], .tuple [], .bytearray [0, 255], .int (-(2 ^ 31) - 1)]) = true := by
  decide

example : (cpDumpsFramed false 4
    (.list [.dict [(.int 1, .str (sb "a")), (.str (sb "k"), .list [.none, .bool true, .float 0x3ff8000000000000]),
                   (.tuple [.int (2 ^ 70), .int (-5)], .bytes [1, 2, 3])], .tuple [], .int (-(2 ^ 31) - 1)])).isSome = true := by
  decide

example : pkOKb { pyDict := false, su := false }
    (.dict [(.int 1, .str (sb "a")), (.float 0, .none), (.str (sb "k"), .dict [])]) = true := by
  decide

/-- Non-vacuity for the memo theorem: two records with the same key objects, the same bytes object twice and a
    bytearray, at protocol 2 (bytes and bytearray through memoized globals): within the model, hypotheses met. -/
example : (cpDumpsFramedS (fun _ => true) true 2
    (.list [.dict [(.str 1 (sb "id"), .int 1), (.str 2 (sb "data"), .bytes 3 [1, 2, 255])],
            .dict [(.str 1 (sb "id"), .int 2), (.str 2 (sb "data"), .bytes 3 [1, 2, 255])], .bytearray 4 [7], .bytes 5 []])).isSome = true := by
  decide

example : pkOKb { pyDict := true, su := false } (erase
    (.list [.dict [(.str 1 (sb "id"), .int 1), (.str 2 (sb "data"), .bytes 3 [1, 2, 255])],
            .dict [(.str 1 (sb "id"), .int 2), (.str 2 (sb "data"), .bytes 3 [1, 2, 255])], .bytearray 4 [7], .bytes 5 []])) = true := by
  decide

end Ogorek
