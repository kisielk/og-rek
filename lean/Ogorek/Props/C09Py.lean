import Ogorek.Lemmas.PyEq
import Ogorek.Props.C08F
import Ogorek.Props.C09

/-!
  # C09 against the model of Python's dict

  `Dict.Set` (PyDict mode: drop every entry equal to the key, add the new one — `dictSetSpec`) and the assignment of the
  model of CPython's dict (`pyDictSet`: the entry with an equal key keeps its key and gets the new value, otherwise a new entry)
  are two different procedures.  `C09_python_dict_step` / `C09_python_dict`: on keys that both sides hold without a Python-2
  string (None, bool, int64, *big.Int, float, str, bytes, Class, and tuples / calls / persistent references of these, `keyConv`),
  after any sequence of assignments the two tables have the same number of entries and answer every lookup alike — the key
  classes, the entry count and the final value per class are those of Python's dict.  (With ByteString keys og-rek's
  equality is deliberately non-transitive — C08's K2 — and no Python-3 dict behaves like that.)
-/
namespace Ogorek

mutual
/-- A Go key as the Python key it stands for. -/
def keyConv : GoVal → Option PyVal
  | .none => some .none
  | .bool b => some (.bool b)
  | .int i => if inInt64 i then some (.int i) else none
  | .big _ i => some (.int i)
  | .float f => some (.float f)
  | .str s => some (.str s)
  | .bytes s => some (.bytes s)
  | .tuple xs => match keyConvList xs with
    | some ys => some (.tuple ys)
    | none => none
  | .cls m n => some (.glob m n)
  | .call m n args => match keyConvList args with
    | some ys => some (.call (.glob m n) ys)
    | none => none
  | .ref p => match keyConv p with
    | some q => some (.pers q)
    | none => none
  | .mark => none
  | .uint _ => none
  | .complex _ _ => none
  | .bytestr _ => none
  | .bytearray _ => none
  | .list _ => none
  | .map _ => none
  | .dict _ => none
  | .href _ => none
  | .user _ => none
  | .cycle => none
  | .nil => none
def keyConvList : List GoVal → Option (List PyVal)
  | [] => some []
  | x :: xs => match keyConv x, keyConvList xs with
    | some a, some as => some (a :: as)
    | _, _ => none
end

theorem keyConv_int_inv {i : Int} {a' : PyVal} (h : keyConv (.int i) = some a') : inInt64 i = true ∧ a' = .int i := by
  have h : (if inInt64 i then some (PyVal.int i) else none) = some a' := h
  by_cases hi : inInt64 i = true
  · rw [if_pos hi] at h; cases h; exact ⟨hi, rfl⟩
  · rw [if_neg hi] at h; cases h

theorem keyConv_tuple_inv {xs : List GoVal} {a' : PyVal} (h : keyConv (.tuple xs) = some a') :
    ∃ xs', keyConvList xs = some xs' ∧ a' = .tuple xs' := by
  simp only [keyConv] at h
  cases hx : keyConvList xs with
  | none => rw [hx] at h; cases h
  | some xs' => rw [hx] at h; cases h; exact ⟨xs', rfl, rfl⟩

theorem keyConv_call_inv {m n : Bytes} {xs : List GoVal} {a' : PyVal} (h : keyConv (.call m n xs) = some a') :
    ∃ xs', keyConvList xs = some xs' ∧ a' = .call (.glob m n) xs' := by
  simp only [keyConv] at h
  cases hx : keyConvList xs with
  | none => rw [hx] at h; cases h
  | some xs' => rw [hx] at h; cases h; exact ⟨xs', rfl, rfl⟩

theorem keyConv_ref_inv {p : GoVal} {a' : PyVal} (h : keyConv (.ref p) = some a') :
    ∃ q, keyConv p = some q ∧ a' = .pers q := by
  simp only [keyConv] at h
  cases hx : keyConv p with
  | none => rw [hx] at h; cases h
  | some q => rw [hx] at h; cases h; exact ⟨q, rfl, rfl⟩

theorem keyConvList_cons_inv {x : GoVal} {xs : List GoVal} {ys' : List PyVal} (h : keyConvList (x :: xs) = some ys') :
    ∃ a as, keyConv x = some a ∧ keyConvList xs = some as ∧ ys' = a :: as := by
  simp only [keyConvList] at h
  cases h1 : keyConv x <;> cases h2 : keyConvList xs <;> rw [h1, h2] at h <;> cases h
  exact ⟨_, _, rfl, rfl, rfl⟩

/-- A convertible key that is not a number, beside its Python counterpart. -/
inductive ConvShape : GoVal → PyVal → Prop
  | none : ConvShape .none .none
  | str (s : Bytes) : ConvShape (.str s) (.str s)
  | bytes (s : Bytes) : ConvShape (.bytes s) (.bytes s)
  | cls (m n : Bytes) : ConvShape (.cls m n) (.glob m n)
  | tuple {xs : List GoVal} {xs' : List PyVal} (h : keyConvList xs = some xs') : ConvShape (.tuple xs) (.tuple xs')
  | call (m n : Bytes) {xs : List GoVal} {xs' : List PyVal} (h : keyConvList xs = some xs') :
      ConvShape (.call m n xs) (.call (.glob m n) xs')
  | ref {p : GoVal} {p' : PyVal} (h : keyConv p = some p') : ConvShape (.ref p) (.pers p')

theorem keyConv_shape {a : GoVal} {a' : PyVal} (h : keyConv a = some a') (hn : numOf? a = none) : ConvShape a a' := by
  cases a <;> first | cases hn | skip
  case none => cases h; exact .none
  case str s => cases h; exact .str s
  case bytes s => cases h; exact .bytes s
  case cls m n => cases h; exact .cls m n
  case tuple xs => obtain ⟨xs', hx, rfl⟩ := keyConv_tuple_inv h; exact .tuple hx
  case call m n xs => obtain ⟨xs', hx, rfl⟩ := keyConv_call_inv h; exact .call m n hx
  case ref p => obtain ⟨q, hq, rfl⟩ := keyConv_ref_inv h; exact .ref hq
  all_goals cases h

theorem keyConv_numOf_none {a : GoVal} {a' : PyVal} (h : keyConv a = some a') (hn : numOf? a = none) : pyNum? a' = none := by
  cases keyConv_shape h hn <;> rfl

theorem keyConv_num {a : GoVal} {a' : PyVal} {x : Num} (h : keyConv a = some a') (hn : numOf? a = some x) :
    ∃ x', pyNum? a' = some x' ∧ exactVal x = exactVal x' ∧ NumWF x := by
  cases a <;> cases hn
  case int i => obtain ⟨hi, rfl⟩ := keyConv_int_inv h; exact ⟨_, rfl, rfl, hi⟩
  all_goals cases h <;> exact ⟨_, rfl, rfl, trivial⟩

theorem numEq_conv {x y x' y' : Num} (hx : NumWF x) (hy : NumWF y) (hx' : NumWF x') (hy' : NumWF y')
    (ex : exactVal x = exactVal x') (ey : exactVal y = exactVal y') : numEq x y = numEq x' y' := by
  rw [C07_exact_num x y hx hy, C07_exact_num x' y' hx' hy', ex, ey]

theorem keyConv_eq_num {a b : GoVal} {a' b' : PyVal} {x : Num} (hn : numOf? a = some x) (ha : keyConv a = some a') (hb : keyConv b = some b') :
    goEqual a b = pyEq a' b' := by
  obtain ⟨x', hx', ex, wx⟩ := keyConv_num ha hn
  rw [goEqual_num hn, pyEq_num hx']
  cases hy : numOf? b with
  | none => rw [keyConv_numOf_none hb hy]
  | some y =>
    obtain ⟨y', hy', ey, wy⟩ := keyConv_num hb hy
    rw [hy']
    exact numEq_conv wx wy (pyNum_wf hx') (pyNum_wf hy') ex ey

theorem keyConv_eq_of_parts {a b : GoVal} {a' b' : PyVal} (ha : keyConv a = some a') (hb : keyConv b = some b')
    (hl : ∀ xs ys xs' ys', (a = .tuple xs ∨ ∃ m n, a = .call m n xs) → keyConvList xs = some xs' → keyConvList ys = some ys' →
      goEqualList xs ys = pyEqList xs' ys')
    (hr : ∀ p q p' q', a = .ref p → keyConv p = some p' → keyConv q = some q' → goEqual p q = pyEq p' q') :
    goEqual a b = pyEq a' b' := by
  cases hna : numOf? a with
  | some x => exact keyConv_eq_num hna ha hb
  | none =>
    cases hnb : numOf? b with
    | some y => rw [C07_symm, pyEq_symm]; exact keyConv_eq_num hnb hb ha
    | none =>
      -- neither is a number: different shapes are unequal on both sides, equal shapes compare their fields
      cases keyConv_shape ha hna with
      | @tuple xs xs' hx =>
        cases keyConv_shape hb hnb with
        | @tuple ys ys' hy => exact hl xs ys xs' ys' (Or.inl rfl) hx hy
        | _ => rfl
      | @call m n xs xs' hx =>
        cases keyConv_shape hb hnb with
        | @call m' n' ys ys' hy =>
          exact congrArg ((m == m' && n == n') && ·) (hl xs ys xs' ys' (Or.inr ⟨m, n, rfl⟩) hx hy)
        | _ => rfl
      | @ref p p' hp =>
        cases keyConv_shape hb hnb with
        | @ref q q' hq => exact hr p q p' q' rfl hp hq
        | _ => rfl
      | _ => cases keyConv_shape hb hnb <;> rfl

theorem keyConv_eq_leaf {a b : GoVal} {a' b' : PyVal} (ha : keyConv a = some a') (hb : keyConv b = some b')
    (hl : (eqView a).isLeaf = true) : goEqual a b = pyEq a' b' :=
  keyConv_eq_of_parts ha hb (fun _ _ _ _ h => by rcases h with rfl | ⟨_, _, rfl⟩ <;> cases hl)
    (fun _ _ _ _ h => by rw [h] at hl; cases hl)

theorem keyConv_eq_parts :
    PartsStep (fun a => ∀ b a' b', keyConv a = some a' → keyConv b = some b' → goEqual a b = pyEq a' b')
      (fun xs => ∀ ys xs' ys', keyConvList xs = some xs' → keyConvList ys = some ys' → goEqualList xs ys = pyEqList xs' ys') := by
  refine ⟨?_, (fun _ _ _ _ _ ha => by cases ha), ?_, ?_, fun _ hl _ _ _ ha hb => keyConv_eq_leaf ha hb hl, ?_, ?_⟩
  · intro xs ih b a' b' ha hb
    exact keyConv_eq_of_parts ha hb
      (fun _ ys xs' ys' h => by rcases h with h | ⟨_, _, h⟩ <;> cases h; exact ih ys xs' ys') (fun _ _ _ _ h => nomatch h)
  · intro m n xs ih b a' b' ha hb
    exact keyConv_eq_of_parts ha hb
      (fun _ ys xs' ys' h => by rcases h with h | ⟨_, _, h⟩ <;> cases h; exact ih ys xs' ys') (fun _ _ _ _ h => nomatch h)
  · intro p ih b a' b' ha hb
    exact keyConv_eq_of_parts ha hb (fun _ _ _ _ h => by rcases h with h | ⟨_, _, h⟩ <;> cases h)
      (fun _ q p' q' h => by cases h; exact ih q p' q')
  · intro ys xs' ys' hx hy
    cases hx
    cases ys with
    | nil => cases hy; rfl
    | cons _ _ => obtain ⟨_, _, _, _, rfl⟩ := keyConvList_cons_inv hy; rfl
  · intro x xs ihx ihxs ys xs' ys' hx hy
    obtain ⟨a, as, h1, h2, rfl⟩ := keyConvList_cons_inv hx
    cases ys with
    | nil => cases hy; rfl
    | cons y ys =>
      obtain ⟨b, bs, h3, h4, rfl⟩ := keyConvList_cons_inv hy
      exact congr (congrArg and (ihx y _ _ h1 h3)) (ihxs ys _ _ h2 h4)

/-- **On convertible keys og-rek's `equal` is Python's `==`.** -/
theorem keyConv_eq : ∀ (a b : GoVal) (a' b' : PyVal), keyConv a = some a' → keyConv b = some b' → goEqual a b = pyEq a' b' :=
  keyConv_eq_parts.val

theorem keyConvList_eq : ∀ (xs ys : List GoVal) (xs' ys' : List PyVal), keyConvList xs = some xs' → keyConvList ys = some ys' →
    goEqualList xs ys = pyEqList xs' ys' := keyConv_eq_parts.lst

theorem goEqual_trans_conv {a b c : GoVal} {a' b' c' : PyVal} (ha : keyConv a = some a') (hb : keyConv b = some b') (hc : keyConv c = some c')
    (h1 : goEqual a b = true) (h2 : goEqual b c = true) : goEqual a c = true := by
  rw [keyConv_eq a b a' b' ha hb] at h1
  rw [keyConv_eq b c b' c' hb hc] at h2
  rw [keyConv_eq a c a' c' ha hc]
  exact pyEq_trans a' b' c' h1 h2


/-- `Dict.Get`: the value of the first entry whose key equals the query. -/
def goFind : Entries → GoVal → Option GoVal
  | [], _ => none
  | (a, b) :: r, q => if goEqual q a then some b else goFind r q

/-- `d[q]` in the Python model. -/
def pyFind : List (PyVal × PyVal) → PyVal → Option PyVal
  | [], _ => none
  | (a, b) :: r, q => if pyEq a q then some b else pyFind r q

def Convertible (k : GoVal) : Prop := ∃ k', keyConv k = some k'

theorem goEqual_false_of {a b c : GoVal} (ha : Convertible a) (hb : Convertible b) (hc : Convertible c)
    (h1 : goEqual a b = true) (h2 : goEqual a c = false) : goEqual b c = false := by
  obtain ⟨a', ha⟩ := ha; obtain ⟨b', hb⟩ := hb; obtain ⟨c', hc⟩ := hc
  cases h : goEqual b c with
  | false => rfl
  | true => rw [goEqual_trans_conv ha hb hc h1 h] at h2; cases h2

/-- `goFind` is `gomap.Map.Get` probing the entries in order. -/
theorem goFind_eq_tableGet : (es : Entries) → (q : GoVal) → goFind es q = tableGet (fun _ => 0) es q
  | [], _ => rfl
  | (a, b) :: r, q => by
    have ih := goFind_eq_tableGet r q
    unfold tableGet matching at ih ⊢
    rw [goFind, List.filter_cons]
    cases goEqual q a
    · exact ih
    · rfl

theorem goFind_set (k v q : GoVal) (hk : Convertible k) (hq : Convertible q) :
    (es : Entries) → (∀ e ∈ es, Convertible e.1) → goFind (dictSetSpec es k v) q = if goEqual q k then some v else goFind es q := by
  intro es hes
  rw [goFind_eq_tableGet, goFind_eq_tableGet]
  cases hqk : goEqual q k with
  | true =>
    exact C08_get_after_set _ es k v q hqk
      (fun e he hke => goEqual_false_of hk hq (hes e he) (by rw [C07_symm]; exact hqk) hke)
  | false =>
    have hm := C08_frame_set (fun _ => 0) es k v q hqk
      (fun e he hqe => by rw [C07_symm]; exact goEqual_false_of hq (hes e he) hk hqe hqk)
    rw [C08_set] at hm
    unfold tableGet
    rw [hm]
    rfl

theorem pyFind_set (k v q : PyVal) : (ps : List (PyVal × PyVal)) →
    pyFind (pyDictSet ps k v) q = if pyEq k q then some v else pyFind ps q
  | [] => rfl
  | (a, b) :: r => by
    have ih := pyFind_set k v q r
    unfold pyDictSet
    cases hak : pyEq a k with
    | true =>
      -- `a` and `k` answer every query alike
      have : pyEq a q = pyEq k q := Bool.eq_iff_iff.mpr
        ⟨pyEq_trans k a q (by rw [pyEq_symm]; exact hak), pyEq_trans a k q hak⟩
      simp only [if_true, pyFind, this]
      cases pyEq k q <;> rfl
    | false =>
      simp only [Bool.false_eq_true, if_false, pyFind, ih]
      cases haq : pyEq a q <;> cases hkq : pyEq k q <;> first | rfl | skip
      -- `q` equal to both `a` and `k` would make them equal
      rw [pyEq_trans a q k haq (by rw [pyEq_symm]; exact hkq)] at hak
      cases hak

theorem pyDictSet_length (k v : PyVal) : (ps : List (PyVal × PyVal)) →
    (pyDictSet ps k v).length = ps.length + (if (pyFind ps k).isSome then 0 else 1)
  | [] => rfl
  | (a, b) :: r => by
    have ih := pyDictSet_length k v r
    unfold pyDictSet
    by_cases hak : pyEq a k = true
    · simp [hak, pyFind]
    · simp only [Bool.not_eq_true] at hak
      simp only [hak, Bool.false_eq_true, if_false, pyFind, List.length_cons, ih]
      omega

/-- No two stored keys are equal (C08's invariant). -/
def GoNoDup : Entries → Prop
  | [] => True
  | (a, _) :: r => (∀ e ∈ r, goEqual a e.1 = false) ∧ GoNoDup r

theorem goNoDup_iff : (es : Entries) → (GoNoDup es ↔ NoEqualKeys es)
  | [] => ⟨fun _ => List.Pairwise.nil, fun _ => trivial⟩
  | (a, b) :: r => by
    unfold NoEqualKeys
    rw [GoNoDup, List.pairwise_cons, goNoDup_iff r]
    rfl

theorem dictSetSpec_length (k v : GoVal) (hk : Convertible k) : (es : Entries) → (∀ e ∈ es, Convertible e.1) → GoNoDup es →
    (dictSetSpec es k v).length = es.length + (if (goFind es k).isSome then 0 else 1) := by
  intro es hes hnd
  obtain ⟨k', hk'⟩ := hk
  -- at most one stored key equals `k` (equality is transitive on convertible keys), and `Set` removes what it finds
  have h1 := C08_match_unique es k ((goNoDup_iff es).mp hnd) (fun e1 m1 e2 m2 g1 g2 => by
    obtain ⟨x1, c1⟩ := hes e1 m1
    obtain ⟨x2, c2⟩ := hes e2 m2
    exact goEqual_trans_conv c1 hk' c2 (by rw [C07_symm]; exact g1) g2)
  have h2 := C08_len_set (fun _ => 0) es k v
  rw [C08_set] at h2
  rw [goFind_eq_tableGet]
  unfold tableGet
  cases hm : matching es k with
  | nil => rw [hm] at h2; exact h2
  | cons e r =>
    rw [hm] at h1 h2
    have hr : r = [] := List.eq_nil_of_length_eq_zero (by simpa using h1)
    subst hr
    exact Nat.add_right_cancel h2

theorem dictSetSpec_nodup (k v : GoVal) (es : Entries) (h : GoNoDup es) : GoNoDup (dictSetSpec es k v) := by
  rw [goNoDup_iff] at h ⊢
  have := C08_inv_step (fun _ => 0) es (.set k v) h
  rwa [dictStep, C08_set] at this


def OptRel (V : GoVal → PyVal → Prop) : Option GoVal → Option PyVal → Prop
  | none, none => True
  | some v, some v' => V v v'
  | _, _ => False

/-- og-rek's Dict (its entries) and the Python model's dict hold the same mapping. -/
structure DictRel (V : GoVal → PyVal → Prop) (es : Entries) (ps : List (PyVal × PyVal)) : Prop where
  len : es.length = ps.length
  conv : ∀ e ∈ es, Convertible e.1
  nodup : GoNoDup es
  look : ∀ q q', keyConv q = some q' → OptRel V (goFind es q) (pyFind ps q')

theorem DictRel.empty (V : GoVal → PyVal → Prop) : DictRel V [] [] :=
  ⟨rfl, by simp, trivial, fun _ _ _ => by simp [goFind, pyFind, OptRel]⟩

theorem OptRel.isSome {V : GoVal → PyVal → Prop} {a : Option GoVal} {b : Option PyVal} (h : OptRel V a b) : a.isSome = b.isSome := by
  cases a <;> cases b <;> simp_all [OptRel]

/-- **C09 against Python's dict, one assignment.**  If og-rek's Dict and the Python model's dict hold the same mapping, they
    still do after `Set(k, v)` / `d[k'] = v'` for a convertible key `k` (`k'` its Python counterpart) and related values:
    same number of entries, every lookup answered alike, still no two equal keys. -/
theorem C09_python_dict_step (V : GoVal → PyVal → Prop) (es : Entries) (ps : List (PyVal × PyVal)) (k v : GoVal) (k' v' : PyVal)
    (h : DictRel V es ps) (hk : keyConv k = some k') (hv : V v v') : DictRel V (dictSetSpec es k v) (pyDictSet ps k' v') := by
  have hkc : Convertible k := ⟨k', hk⟩
  refine ⟨?_, ?_, dictSetSpec_nodup k v es h.nodup, ?_⟩
  · rw [dictSetSpec_length k v hkc es h.conv h.nodup, pyDictSet_length, h.len, (h.look k k' hk).isSome]
  · intro e he
    rcases mem_dictSetSpec.mp he with he | rfl
    · exact h.conv e he.1
    · exact hkc
  · intro q q' hq
    rw [goFind_set k v q hkc ⟨q', hq⟩ es h.conv, pyFind_set]
    have e : goEqual q k = pyEq k' q' := by rw [keyConv_eq q k q' k' hq hk, pyEq_symm]
    rw [e]
    by_cases hkq : pyEq k' q' = true
    · simp [hkq, OptRel, hv]
    · simp only [Bool.not_eq_true] at hkq
      simp only [hkq, Bool.false_eq_true, if_false]
      exact h.look q q' hq

def OpsRel (V : GoVal → PyVal → Prop) : List (GoVal × GoVal) → List (PyVal × PyVal) → Prop
  | [], [] => True
  | (k, v) :: r, (k', v') :: r' => keyConv k = some k' ∧ V v v' ∧ OpsRel V r r'
  | _, _ => False

/-- **C09 against Python's dict, any history.**  Starting from related tables (the empty ones, for a dict literal), after any
    sequence of assignments og-rek's Dict and Python's dict have the same number of entries and answer every lookup alike:
    the key classes, the entry count and the final value per class are Python's. -/
theorem C09_python_dict (V : GoVal → PyVal → Prop) : (ops : List (GoVal × GoVal)) → (ops' : List (PyVal × PyVal)) →
    (es : Entries) → (ps : List (PyVal × PyVal)) → OpsRel V ops ops' → DictRel V es ps →
    DictRel V (ops.foldl (fun a e => dictSetSpec a e.1 e.2) es) (ops'.foldl (fun a e => pyDictSet a e.1 e.2) ps)
  | [], [], _, _, _, h => h
  | [], _ :: _, _, _, ho, _ => by simp [OpsRel] at ho
  | _ :: _, [], _, _, ho, _ => by simp [OpsRel] at ho
  | (k, v) :: r, (k', v') :: r', es, ps, ho, h => by
    simp only [OpsRel] at ho
    simp only [List.foldl_cons]
    exact C09_python_dict V r r' _ _ ho.2.2 (C09_python_dict_step V es ps k v k' v' h ho.1 ho.2.1)

/-- Non-vacuity: the keys 1, 1.0, True and a big 1 are convertible and all equal — one class on both sides; a tuple holding a
    str and bytes is convertible too. -/
example : keyConv (.tuple [.int 1, .float 0x3ff0000000000000, .bool true, .big 7 1, .str [97], .bytes [97], .none,
    .call [109] [110] [.ref (.int 5)], .cls [109] [110]]) ≠ none := by decide

example : goEqual (.int 1) (.float 0x3ff0000000000000) = true ∧ pyEq (.int 1) (.float 0x3ff0000000000000) = true ∧
    pyEq (.bool true) (.int 1) = true := by decide


theorem keyConv_hashable_parts :
    PartsStep (fun a => ∀ a', keyConv a = some a' → (hashTree a).isSome = true ∧ pyHashable a' = true)
      (fun xs => ∀ xs', keyConvList xs = some xs' → (hashTreeList xs).isSome = true ∧ pyHashableList xs' = true) := by
  refine ⟨?_, (fun _ _ _ h => by cases h), ?_, ?_, ?_, (fun _ h => by cases h; exact ⟨rfl, rfl⟩), ?_⟩
  · intro xs ih a' h
    obtain ⟨xs', hx, rfl⟩ := keyConv_tuple_inv h
    exact ⟨Option.isSome_map.trans (ih xs' hx).1, (ih xs' hx).2⟩
  · intro m n xs ih a' h
    obtain ⟨xs', hx, rfl⟩ := keyConv_call_inv h
    exact ⟨Option.isSome_map.trans (ih xs' hx).1, (ih xs' hx).2⟩
  · intro p ih a' h
    obtain ⟨q, hq, rfl⟩ := keyConv_ref_inv h
    exact ⟨Option.isSome_map.trans (ih q hq).1, (ih q hq).2⟩
  · intro a hl a' h
    cases a with
    | int i => obtain ⟨_, rfl⟩ := keyConv_int_inv h; exact ⟨rfl, rfl⟩
    | tuple _ | list _ | call _ _ _ | ref _ => cases hl
    | _ => cases h <;> exact ⟨rfl, rfl⟩
  · intro x xs ihx ihxs xs' h
    obtain ⟨a, as, h1, h2, rfl⟩ := keyConvList_cons_inv h
    rw [hashTreeList_cons_isSome, pyHashableList, Bool.and_eq_true, Bool.and_eq_true]
    exact ⟨⟨(ihx a h1).1, (ihxs as h2).1⟩, (ihx a h1).2, (ihxs as h2).2⟩

theorem keyConv_hashable : ∀ (a : GoVal) (a' : PyVal), keyConv a = some a' → (hashTree a).isSome = true ∧ pyHashable a' = true :=
  keyConv_hashable_parts.val

theorem keyConvList_hashable : ∀ (xs : List GoVal) (xs' : List PyVal), keyConvList xs = some xs' →
    (hashTreeList xs).isSome = true ∧ pyHashableList xs' = true := keyConv_hashable_parts.lst

/-- **C09, SETITEM on both machines.**  og-rek's decoder in PyDict mode and the model of CPython's unpickler, holding related
    dicts, both accept the assignment of a convertible key (unless it is a second NaN-holding key, which the Python model
    declines) and end with related dicts again. -/
theorem C09_setitem_python (V : GoVal → PyVal → Prop) (es : Entries) (ps : List (PyVal × PyVal)) (k v : GoVal) (k' v' : PyVal)
    (h : DictRel V es ps) (hk : keyConv k = some k') (hv : V v v')
    (hnan : (pyHasNaN k' && ps.any (fun e => pyHasNaN e.1)) = false) :
    ∃ es' ps', tryAssign .dict es k v = some es' ∧ pyAssign ps k' v' = .ok ps' ∧ DictRel V es' ps' := by
  have hh := keyConv_hashable k k' hk
  refine ⟨dictSetSpec es k v, pyDictSet ps k' v', ?_, ?_, C09_python_dict_step V es ps k v k' v' h hk hv⟩
  · exact C09_setitem_dict es k v hh.1
  · simp [pyAssign, hh.2, hnan]

end Ogorek
