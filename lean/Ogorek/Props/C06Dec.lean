import Ogorek.Props.C06Pk

/-!
  The protocol-0 float-text hypothesis made decidable.

  At protocol 0 a float travels as decimal text (`repr` on the Python side, `%g` on the Go side); that the decoder's
  float parser reads the text back as the same float64 is the shortest-round-trip property of the two formatters,
  which is not proved here.  It is a closed computation for each given float: `pyFloatTextOKb f` / `floatTextOKb f`
  run the model's formatter and parser on `f` and compare.  With them every hypothesis of the theorems about
  CPython's pickler is a Boolean the correspondence run evaluates for each of its cases, which are then instances of
  the theorems and not merely inputs on which model and implementation agree.
-/
namespace Ogorek

/-- `PyFloatTextOK`, evaluated. -/
def pyFloatTextOKb (f : F64) : Bool :=
  (match F64.parse (pyFloatRepr f) with
   | .ok g => g == f
   | _ => false) && !(pyFloatRepr f).contains 10

/-- `FloatTextOK` (the Go side's `%g`), evaluated. -/
def floatTextOKb (f : F64) : Bool :=
  match F64.parse (F64.fmtG f) with
  | .ok g => g == f
  | _ => false

theorem parseFloatArg_of_b (t : Bytes) (f : F64) (h : (match F64.parse t with | .ok g => g == f | _ => false) = true) :
    parseFloatArg t = .ok (.pushFloat f) := by
  unfold parseFloatArg
  cases hp : F64.parse t with
  | ok g =>
    rw [hp] at h
    simp [show g = f by simpa using h]
  | range => rw [hp] at h; simp at h
  | «syntax» => rw [hp] at h; simp at h
  | unmodelled => rw [hp] at h; simp at h

theorem pyFloatTextOK_of_b (f : F64) (h : pyFloatTextOKb f = true) : PyFloatTextOK f := by
  unfold pyFloatTextOKb at h
  simp only [Bool.and_eq_true, Bool.not_eq_true', List.contains_eq_mem, decide_eq_false_iff_not] at h
  exact ⟨parseFloatArg_of_b _ f h.1, h.2⟩

theorem floatTextOK_of_b (f : F64) (h : floatTextOKb f = true) : FloatTextOK f :=
  parseFloatArg_of_b _ f h

mutual
def pyFloatsOKb : PyObj → Bool
  | .none => true
  | .bool _ => true
  | .int _ => true
  | .float f => pyFloatTextOKb f
  | .str _ => true
  | .bytes _ => true
  | .bytearray _ => true
  | .tuple xs => pyFloatsOKbList xs
  | .list xs => pyFloatsOKbList xs
  | .dict kvs => pyFloatsOKbPairs kvs
def pyFloatsOKbList : List PyObj → Bool
  | [] => true
  | x :: xs => pyFloatsOKb x && pyFloatsOKbList xs
def pyFloatsOKbPairs : List (PyObj × PyObj) → Bool
  | [] => true
  | (k, v) :: r => pyFloatsOKb k && pyFloatsOKb v && pyFloatsOKbPairs r
end

theorem or_band {P : Prop} {a b : Bool} : (P ∨ (a && b) = true) ↔ (P ∨ a = true) ∧ (P ∨ b = true) := by
  rw [Bool.and_eq_true, or_and_left]

mutual
theorem pkOK_of_bf (cfg : Cfg) (p : Nat) : (v : PyObj) → pkOKb cfg v = true → (p ≥ 1 ∨ pyFloatsOKb v = true) → pkOK cfg p v
  | .none | .bool _ | .int _ | .str _ | .bytes _ => fun _ _ => trivial
  | .float f => fun _ hf => hf.imp id (pyFloatTextOK_of_b f)
  | .bytearray s => fun h _ => (of_decide_eq_true h : s.length < 2 ^ 32)
  | .tuple xs | .list xs => fun h hf => pkOKList_of_bf cfg p xs h hf
  | .dict kvs => fun h hf =>
    have ⟨h1, h2⟩ := Bool.and_eq_true_iff.mp h
    ⟨pkOKPairs_of_bf cfg p kvs h1 hf, h2⟩
theorem pkOKList_of_bf (cfg : Cfg) (p : Nat) : (xs : List PyObj) → pkOKbList cfg xs = true → (p ≥ 1 ∨ pyFloatsOKbList xs = true) →
    pkOKList cfg p xs
  | [] => fun _ _ => trivial
  | x :: xs => fun h hf =>
    have ⟨h1, h2⟩ := Bool.and_eq_true_iff.mp h
    have ⟨f1, f2⟩ := or_band.mp hf
    ⟨pkOK_of_bf cfg p x h1 f1, pkOKList_of_bf cfg p xs h2 f2⟩
theorem pkOKPairs_of_bf (cfg : Cfg) (p : Nat) : (kvs : List (PyObj × PyObj)) → pkOKbPairs cfg kvs = true →
    (p ≥ 1 ∨ pyFloatsOKbPairs kvs = true) → pkOKPairs cfg p kvs
  | [] => fun _ _ => trivial
  | (k, v) :: r => fun h hf =>
    have ⟨h12, h3⟩ := Bool.and_eq_true_iff.mp h
    have ⟨h1, h2⟩ := Bool.and_eq_true_iff.mp h12
    have ⟨f12, f3⟩ := or_band.mp hf
    have ⟨f1, f2⟩ := or_band.mp f12
    ⟨pkOK_of_bf cfg p k h1 f1, pkOK_of_bf cfg p v h2 f2, pkOKPairs_of_bf cfg p r h3 f3⟩
end

theorem pkOK_of_b (cfg : Cfg) (p : Nat) (hp : p ≥ 1) : (v : PyObj) → pkOKb cfg v = true → pkOK cfg p v :=
  fun v h => pkOK_of_bf cfg p v h (.inl hp)
theorem pkOKList_of_b (cfg : Cfg) (p : Nat) (hp : p ≥ 1) : (xs : List PyObj) → pkOKbList cfg xs = true → pkOKList cfg p xs :=
  fun xs h => pkOKList_of_bf cfg p xs h (.inl hp)
theorem pkOKPairs_of_b (cfg : Cfg) (p : Nat) (hp : p ≥ 1) : (kvs : List (PyObj × PyObj)) → pkOKbPairs cfg kvs = true → pkOKPairs cfg p kvs :=
  fun kvs h => pkOKPairs_of_bf cfg p kvs h (.inl hp)

mutual
theorem pyOKp_of_bf (p : Nat) : (v : PyObj) → pyOKb v = true → (p ≥ 1 ∨ pyFloatsOKb v = true) → pyOKp p v
  | .none | .bool _ | .int _ | .bytes _ => fun _ _ => trivial
  | .float f => fun _ hf => hf.imp id (pyFloatTextOK_of_b f)
  | .str _ => fun h _ => h
  | .bytearray s => fun h _ => (of_decide_eq_true h : s.length < 2 ^ 32)
  | .tuple xs | .list xs => fun h hf => pyOKpList_of_bf p xs h hf
  | .dict kvs => fun h hf =>
    have ⟨h12, h3⟩ := Bool.and_eq_true_iff.mp h
    have ⟨h1, h2⟩ := Bool.and_eq_true_iff.mp h12
    ⟨pyOKpPairs_of_bf p kvs h1 hf, h2, of_decide_eq_true h3⟩
theorem pyOKpList_of_bf (p : Nat) : (xs : List PyObj) → pyOKbList xs = true → (p ≥ 1 ∨ pyFloatsOKbList xs = true) → pyOKpList p xs
  | [] => fun _ _ => trivial
  | x :: xs => fun h hf =>
    have ⟨h1, h2⟩ := Bool.and_eq_true_iff.mp h
    have ⟨f1, f2⟩ := or_band.mp hf
    ⟨pyOKp_of_bf p x h1 f1, pyOKpList_of_bf p xs h2 f2⟩
theorem pyOKpPairs_of_bf (p : Nat) : (kvs : List (PyObj × PyObj)) → pyOKbPairs kvs = true → (p ≥ 1 ∨ pyFloatsOKbPairs kvs = true) →
    pyOKpPairs p kvs
  | [] => fun _ _ => trivial
  | (k, v) :: r => fun h hf =>
    have ⟨h12, h3⟩ := Bool.and_eq_true_iff.mp h
    have ⟨h1, h2⟩ := Bool.and_eq_true_iff.mp h12
    have ⟨f12, f3⟩ := or_band.mp hf
    have ⟨f1, f2⟩ := or_band.mp f12
    ⟨pyOKp_of_bf p k h1 f1, pyOKp_of_bf p v h2 f2, pyOKpPairs_of_bf p r h3 f3⟩
end

theorem pyOKp_of_b (p : Nat) (hp : p ≥ 1) : (v : PyObj) → pyOKb v = true → pyOKp p v :=
  fun v h => pyOKp_of_bf p v h (.inl hp)
theorem pyOKpList_of_b (p : Nat) (hp : p ≥ 1) : (xs : List PyObj) → pyOKbList xs = true → pyOKpList p xs :=
  fun xs h => pyOKpList_of_bf p xs h (.inl hp)
theorem pyOKpPairs_of_b (p : Nat) (hp : p ≥ 1) : (kvs : List (PyObj × PyObj)) → pyOKbPairs kvs = true → pyOKpPairs p kvs :=
  fun kvs h => pyOKpPairs_of_bf p kvs h (.inl hp)

/-- **C02 on CPython's own pickles, every protocol 0-5, every hypothesis evaluated**: tree-shaped objects (`cpDumpsFramed`). -/
theorem C02_pickler_dec (cfg : Cfg) (hook : Hook) (py : Bool) (p : Nat) (hp5 : p ≤ 5) (v : PyObj) (bs : Bytes)
    (hok : pkOKb cfg v = true) (hfl : p ≥ 1 ∨ pyFloatsOKb v = true) (hd : cpDumpsFramed py p v = some bs) (st0 : DState) :
    ∃ r st', decode (goCfg cfg) hook st0 bs = (.ok r, st', []) ∧ Rep (goCfg cfg) GoVal.ref st'.heap r (goOf v) :=
  C02_pickler_framed cfg hook py p hp5 v bs (pkOK_of_bf cfg p v hok hfl) hd st0

/-- **C02 (CPython's pickler, binary protocols 1–5)**: no float travels as text, so the only hypothesis is `pkOKb`
    (dict keys acceptable and pairwise different for the decoder's table, bytearrays below 4 GiB). -/
theorem C02_pickler_bin (cfg : Cfg) (hook : Hook) (py : Bool) (p : Nat) (hp1 : 1 ≤ p) (hp5 : p ≤ 5) (v : PyObj) (bs : Bytes)
    (hok : pkOKb cfg v = true) (hd : cpDumpsFramed py p v = some bs) (st0 : DState) :
    ∃ r st', decode (goCfg cfg) hook st0 bs = (.ok r, st', []) ∧ Rep (goCfg cfg) GoVal.ref st'.heap r (goOf v) :=
  C02_pickler_dec cfg hook py p hp5 v bs hok (.inl hp1) hd st0

/-- **C02 on CPython's own pickles, every protocol 0-5, every hypothesis evaluated**: objects in which str / bytes /
    bytearray objects repeat, so that the memo is read (`cpDumpsFramedS`), as the C pickler, `pickle.py` (`py`) and
    `pickletools.optimize` (`mz`: which PUTs are kept) write them; the decoder's memo starts empty (`hfresh`). -/
theorem C02_pickler_shared_dec (cfg : Cfg) (hook : Hook) (mz : Option PKey → Bool) (py : Bool) (p : Nat) (hp5 : p ≤ 5) (v : PyObjS)
    (bs : Bytes) (hok : pkOKb cfg (erase v) = true) (hfl : p ≥ 1 ∨ pyFloatsOKb (erase v) = true)
    (hd : cpDumpsFramedS mz py p v = some bs) (st0 : DState) (hfresh : st0.memo = []) :
    ∃ r st', decode (goCfg cfg) hook st0 bs = (.ok r, st', []) ∧ Rep (goCfg cfg) GoVal.ref st'.heap r (goOf (erase v)) :=
  C02_pickler_shared cfg hook mz py p hp5 v bs (pkOK_of_bf cfg p _ hok hfl) hd st0 hfresh

/-- **C06 on CPython's own pickles, every protocol 0-5, every hypothesis evaluated**: both unpicklers accept the bytes, consume all
    of them and return the same object. -/
theorem C06_pickler_agree_dec (cfg : Cfg) (hook : Hook) (mz : Option PKey → Bool) (py : Bool) (p : Nat) (hp5 : p ≤ 5)
    (v : PyObjS) (bs : Bytes) (hgo : pkOKb cfg (erase v) = true) (hpy : pyOKb (erase v) = true)
    (hfl : p ≥ 1 ∨ pyFloatsOKb (erase v) = true)
    (hd : cpDumpsFramedS mz py p v = some bs) (hlen : bs.length < 2 ^ 63) (st0 : DState) (hfresh : st0.memo = []) :
    (∃ r st', decode (goCfg cfg) hook st0 bs = (.ok r, st', []) ∧ Rep (goCfg cfg) GoVal.ref st'.heap r (goOf (erase v))) ∧
    (∃ r st', pvmLoad bs = (.ok r, st', []) ∧ PRep st'.heap r (pyOf (erase v))) :=
  C06_pickler_agree cfg hook mz py p hp5 v bs (pkOK_of_bf cfg p _ hgo hfl) (pyOKp_of_bf p _ hpy hfl) hd hlen st0 hfresh

/-- **C06 on CPython's own pickles, binary protocols 1–5**: the only hypotheses are `pkOKb` and `pyOKb`. -/
theorem C06_pickler_agree_bin (cfg : Cfg) (hook : Hook) (mz : Option PKey → Bool) (py : Bool) (p : Nat) (hp1 : 1 ≤ p) (hp5 : p ≤ 5)
    (v : PyObjS) (bs : Bytes) (hgo : pkOKb cfg (erase v) = true) (hpy : pyOKb (erase v) = true)
    (hd : cpDumpsFramedS mz py p v = some bs) (hlen : bs.length < 2 ^ 63) (st0 : DState) (hfresh : st0.memo = []) :
    (∃ r st', decode (goCfg cfg) hook st0 bs = (.ok r, st', []) ∧ Rep (goCfg cfg) GoVal.ref st'.heap r (goOf (erase v))) ∧
    (∃ r st', pvmLoad bs = (.ok r, st', []) ∧ PRep st'.heap r (pyOf (erase v))) :=
  C06_pickler_agree_dec cfg hook mz py p hp5 v bs hgo hpy (.inl hp1) hd hlen st0 hfresh

/-- Non-vacuity at protocol 0: floats of several magnitudes pass the evaluated text hypothesis. -/
example : pyFloatsOKb (.list [.float 0x3ff8000000000000, .float 0x3fb999999999999a, .float 0x7fefffffffffffff, .float 0x0000000000000001,
                              .float 0xc05edd3c07ee0b0b, .dict [(.float 0x4415af1d78b58c40, .float 0x7ff0000000000000)]]) = true := by
  decide +kernel

end Ogorek
