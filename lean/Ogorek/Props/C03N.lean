import Ogorek.Lemmas.RoundTripN
import Ogorek.Props.C03

/-!
  C03, second half — a value that is not canonical comes back as its documented normal form.
-/
namespace Ogorek

/-- **C03 (normal form, protocols 0–5).** For every value `v` whose normal form `norm v` is canonical — so `v` may hold,
    at any depth and also as keys of maps and Dicts, unsigned integers (uint8…uint64) and pointers to application structs,
    which `Decode` never produces — every protocol 0..5, both StrictUnicode and both PyDict settings, from any decoder state:
    if `Encode` returns no error, `Decode` of exactly the bytes written succeeds, consumes all of them and returns a value
    that represents `norm v`: a uint64 comes back as the int64 of the same value, or as a `*big.Int` when it exceeds
    2^63-1; the struct comes back as the map / Dict of its fields; everything canonical comes back as itself
    (`norm` is the identity there — this theorem contains `C03_roundtrip`).  Hypotheses as in `C03_roundtrip`. -/
theorem C03_normal_form (ip : IsPrint) (hip : ip 10 = false) (c : ECfg) (cfg : Cfg) (v : GoVal)
    (hp0 : 0 ≤ c.proto) (hp5 : c.proto ≤ 5) (hsu : cfg.su = c.su)
    (hc : canon cfg true (norm v) = true) (hf : FloatsOK c (floatsOf v)) (he : (encodeTop ip c none v).err = none) (st0 : DState) :
    ∃ r st', decode (goCfg cfg) none st0 (flat (encodeTop ip c none v)) = (.ok r, st', []) ∧
      Rep (goCfg cfg) GoVal.ref st'.heap r (norm v) := by
  exact decode_encodeTop ip c v hp0 hp5 he
    (rtn_val ip ⟨fun _ => rfl, fun _ => rfl⟩ (fun _ _ => rfl) hip hsu rfl v hc hf) (fun _ _ h => h.not_mark) st0

/-- `norm` leaves the values `Decode` itself produces alone; e.g. a nested canonical value. -/
example : norm (.list [.dict [(.int 1, .str (sb "a"))], .tuple [.big 7 5, .none]]) = .list [.dict [(.int 1, .str (sb "a"))], .tuple [.big 7 5, .none]] := by
  simp [norm, normList, normPairs]

/-- Non-vacuity: a list holding uint64 values on both sides of 2^63, an application struct, and a Dict keyed by a uint meets the
    hypothesis (PyDict on), and its normal form is what the documentation says. -/
example : canon { pyDict := true, su := true } true
    (norm (.list [.uint 5, .uint (2 ^ 64 - 1), .user 7, .dict [(.uint 3, .str (sb "x"))]])) = true := by decide

example : norm (.list [.uint 5, .uint (2 ^ 64 - 1), .user 7]) =
    .list [.int 5, .big 0 (2 ^ 64 - 1), .map [(.str (sb "N"), .int 7)]] := by
  simp [norm, normList, maxInt64]

end Ogorek
