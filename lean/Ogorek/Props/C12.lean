import Ogorek.Encoder
import Ogorek.Opcodes
import Ogorek.Generated.Facts
import Ogorek.Lemmas.ScanEnc

/-!
  C12 — Encoder uses only opcodes of the requested protocol and emits one framed pickle.
-/
namespace Ogorek

/-- **C12 (reject).** A protocol outside 0–5 is rejected before anything is written. -/
theorem C12_reject (ip : IsPrint) (c : ECfg) (g : RefHook) (v : GoVal) (h : ¬(0 ≤ c.proto ∧ c.proto ≤ 5)) :
    encodeTop ip c g v = ⟨[], some .invalidProtocol⟩ := by
  simp [encodeTop, h, failWith]

/-- The source's `highestProtocol` is the model's 5. -/
theorem C12_facts : Generated.highestProtocol = 5 := by decide

theorem conforms_framed (p : Nat) (hp : p < 256) (b : Bytes) (h : ScansPush p b) :
    conforms p ((if 2 ≤ p then [0x80, UInt8.ofNat p] else []) ++ (b ++ [46])) = .ok () := by
  obtain ⟨effs, hscan, heff⟩ := h
  obtain ⟨d, hd⟩ := Nat.exists_eq_add_of_le (Scans.length_le hscan)
  have hstop : ∀ (f : Nat) (names : List String) (maxp : Nat) (firstp : Option Nat) (pcount : Nat),
      scanLoop (f + 1) [true] names maxp firstp pcount [46] =
        .ok (⟨("STOP" :: names).reverse, max maxp 0, firstp, pcount, 0⟩, []) := by
    intro f names maxp firstp pcount
    rw [scanLoop]
    rfl
  have hm : ∀ m q, q ≤ p → m ≤ max q p → ¬ (max m 0 > p) := by intro m q hq hm; omega
  unfold conforms scan
  by_cases h2 : 2 ≤ p
  · rw [if_pos h2]
    obtain ⟨names', maxp', hrun, _, hhi, _⟩ := scanLoop_run p effs b (d + 2 + 1) [] [true] ["PROTO"] 2 (some p) 1 [46]
      hscan (heff []) (fun _ => trivial)
    have hpb : (UInt8.ofNat p).toNat = p := by rw [UInt8.toNat_ofNat']; exact Nat.mod_eq_of_lt hp
    have hfuel : List.length ([0x80, UInt8.ofNat p] ++ (b ++ [46])) + 1 = ((d + 2 + 1) + effs.length) + 1 := by
      simp only [List.length_append, List.length_cons, List.length_nil, hd]; omega
    have hstep : ∀ f t, scanLoop (f + 1) [] [] 0 none 0 ([0x80, UInt8.ofNat p] ++ t) = scanLoop f [] ["PROTO"] 2 (some p) 1 t := by
      intro f t
      have : scanOp ([0x80, UInt8.ofNat p] ++ t) = .ok ((⟨0x80, "PROTO", 2, .u1, .nop⟩, (UInt8.ofNat p).toNat), t) := rfl
      rw [scanLoop, this, hpb]
      rfl
    rw [hfuel, hstep, hrun, hstop]
    simp only [h2, decide_true, Bool.true_and, bne_self_eq_false, Bool.false_eq_true, if_false, List.isEmpty_nil, Bool.not_true,
      Nat.not_lt.2 h2, decide_false, Bool.false_and, Nat.lt_irrefl 1, hm _ _ h2 hhi]
  · rw [if_neg h2]
    obtain ⟨names', maxp', hrun, _, hhi, _⟩ := scanLoop_run p effs b (d + 1 + 1) [] [true] [] 0 none 0 [46]
      hscan (heff []) (fun _ => trivial)
    have hfuel : List.length ([] ++ (b ++ [46])) + 1 = (d + 1 + 1) + effs.length := by
      simp only [List.nil_append, List.length_append, List.length_cons, List.length_nil, hd]; omega
    rw [hfuel, List.nil_append, hrun, hstop]
    simp only [h2, decide_false, Bool.false_and, Bool.false_eq_true, if_false, List.isEmpty_nil, Bool.not_true,
      Nat.lt_of_not_le h2, decide_true, Bool.true_and, bne_self_eq_false, Nat.not_lt_zero 1, hm _ _ (Nat.zero_le p) hhi]

/-- **C12 (conformance, protocols 0–5).** For EVERY value (any nesting; application structs, unsigned
    ints, maps and Dicts with any keys included) whose payloads are below the 4 GiB of the 4-byte
    length forms, and every protocol p in 0..5: if `Encode` returns no error, its output, scanned with
    the independent opcode table of `Opcodes.lean`, is one framed pickle — it begins with `PROTO p`
    exactly when p ≥ 2 and contains no other PROTO, every opcode was introduced in a protocol ≤ p,
    the stack discipline holds at every opcode, and the single STOP at the very end finds exactly one
    object.  Only hypothesis besides sizes: LF is not printable in the IsPrint table (a regenerated fact,
    `C03_isprint_lf`). The text lines of protocol 0 are proved newline-free: both codecs' outputs
    (`pyquote_no_lf`, `rue_no_lf`) and the `%g` text of every float64 (`fmtG_no_lf`). -/
theorem C12_conforms (ip : IsPrint) (hip : ip 10 = false) (c : ECfg) (v : GoVal) (hp0 : 0 ≤ c.proto) (hp5 : c.proto ≤ 5)
    (hs : sizesOK v = true) (he : (encodeTop ip c none v).err = none) :
    conforms c.proto.toNat (flat (encodeTop ip c none v)) = .ok () := by
  obtain ⟨hev, e⟩ := flat_encodeTop ip c v he
  rw [e]
  exact conforms_framed _ (by omega) _ (scans_enc ip c hip hp0 v hs hev)

/-- The same restricted to protocols 1–5. -/
theorem C12_conforms_bin (ip : IsPrint) (hip : ip 10 = false) (c : ECfg) (v : GoVal) (hp1 : 1 ≤ c.proto) (hp5 : c.proto ≤ 5)
    (hs : sizesOK v = true) (he : (encodeTop ip c none v).err = none) :
    conforms c.proto.toNat (flat (encodeTop ip c none v)) = .ok () :=
  C12_conforms ip hip c v (by omega) hp5 hs he

end Ogorek
