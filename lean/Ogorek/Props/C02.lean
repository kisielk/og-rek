import Ogorek.Props.C19
import Ogorek.WF
import Ogorek.Lemmas.Latin1

/-!
  C02 — Decoder yields the documented Go value for every CPython-produced pickle.
-/
namespace Ogorek

/-- **C02 (memo key space).** The three PUT and the three GET encodings of memo index `k` name the
    same memo slot, the one MEMOIZE numbers `k` when `k` entries exist (`strconv.Itoa`). -/
theorem C02_memo_keys (k : Nat) (t : Bytes) :
    (k < 256 → parseInsn (113 :: UInt8.ofNat k :: t) = .ok (.put (memoKey k), t)) ∧
    (parseInsn (112 :: (natDigits k ++ 10 :: t)) = .ok (.put (memoKey k), t)) ∧
    (k < 2 ^ 32 → parseInsn (114 :: (natLE 4 k ++ t)) = .ok (.put (memoKey k), t)) ∧
    (k < 256 → parseInsn (104 :: UInt8.ofNat k :: t) = .ok (.get (memoKey k), t)) ∧
    (parseInsn (103 :: (natDigits k ++ 10 :: t)) = .ok (.get (memoKey k), t)) ∧
    (k < 2 ^ 32 → parseInsn (106 :: (natLE 4 k ++ t)) = .ok (.get (memoKey k), t)) := by
  have hbyte : readByte (UInt8.ofNat k :: t) = .ok (UInt8.ofNat k, t) := rfl
  have hline : readLine (natDigits k ++ 10 :: t) = .ok (natDigits k, t) := readLine_line _ _ (natDigits_no k 10 (by decide))
  have hfull : readFull 4 (natLE 4 k ++ t) = .ok (natLE 4 k, t) := readFull_exact 4 _ t (natLE_length 4 k)
  have hb : k < 256 → (UInt8.ofNat k).toNat = k := fun h => by simp [UInt8.toNat_ofNat']; omega
  have hle : k < 2 ^ 32 → leNat (natLE 4 k) = k := fun h => leNat_natLE_of_lt (show k < 256 ^ 4 by omega)
  refine ⟨fun h => ?_, ?_, fun h => ?_, fun h => ?_, ?_, fun h => ?_⟩
  · rw [parseInsn_of parseArg_113 (Rd.map_ok _ hbyte), hb h]
  · exact parseInsn_of parseArg_112 (Rd.map_ok _ hline)
  · rw [parseInsn_of parseArg_114 (Rd.map_ok _ hfull), hle h]
  · rw [parseInsn_of parseArg_104 (Rd.map_ok _ hbyte), hb h]
  · exact parseInsn_of parseArg_103 (Rd.map_ok _ hline)
  · rw [parseInsn_of parseArg_106 (Rd.map_ok _ hfull), hle h]

/-! The module and class names of the call forms, byte by byte. -/

theorem sb_builtin2 : sb "__builtin__" = [95, 95, 98, 117, 105, 108, 116, 105, 110, 95, 95] := by simp [sb]
theorem sb_builtins : sb "builtins" = [98, 117, 105, 108, 116, 105, 110, 115] := by simp [sb]
theorem sb_codecs : sb "_codecs" = [95, 99, 111, 100, 101, 99, 115] := by simp [sb]
theorem sb_encode : sb "encode" = [101, 110, 99, 111, 100, 101] := by simp [sb]
theorem sb_bytes : sb "bytes" = [98, 121, 116, 101, 115] := by simp [sb]
theorem sb_bytearray : sb "bytearray" = [98, 121, 116, 101, 97, 114, 114, 97, 121] := by simp [sb]
theorem sb_latin1 : sb "latin1" = [108, 97, 116, 105, 110, 49] := by simp [sb]

theorem builtin_ne_codecs : (sb "__builtin__" == sb "_codecs") = false ∧ (sb "builtins" == sb "_codecs") = false := by
  rw [sb_builtin2, sb_builtins, sb_codecs]
  exact ⟨rfl, rfl⟩

/-- The decoder and the Python machine both tell `bytearray` from `bytes` by this comparison. -/
theorem bytearray_ne_bytes : (sb "bytearray" == sb "bytes") = false := by
  rw [sb_bytearray, sb_bytes]
  rfl

theorem pybuiltinModule_ne_codecs (proto : Nat) : (pybuiltinModule proto == sb "_codecs") = false := by
  unfold pybuiltinModule
  split
  · exact builtin_ne_codecs.1
  · exact builtin_ne_codecs.2

/-- **C02 (bytes forms).** What CPython writes for bytes / bytearray where the protocol has no opcode
    for them: `_codecs.encode(text, 'latin1')`, `bytearray(bytes)`, and the empty `bytes()` /
    `bytearray()` (repair F2) are turned into Bytes / []byte. -/
theorem C02_bytes_forms (proto : Nat) (d : Bytes) :
    handleCall proto (sb "_codecs") (sb "encode") [.str (latin1ToUtf8 d), .str (sb "latin1")] = some (.ok (.bytes d)) ∧
    handleCall proto (sb "_codecs") (sb "encode") [.str (latin1ToUtf8 d), .bytestr (sb "latin1")] = some (.ok (.bytes d)) ∧
    handleCall proto (pybuiltinModule proto) (sb "bytes") [] = some (.ok (.bytes [])) ∧
    handleCall proto (pybuiltinModule proto) (sb "bytearray") [] = some (.ok (.bytearray [])) ∧
    handleCall proto (pybuiltinModule proto) (sb "bytearray") [.bytes d] = some (.ok (.bytearray d)) := by
  have hne := pybuiltinModule_ne_codecs proto
  have hne2 := bytearray_ne_bytes
  refine ⟨?_, ?_, ?_, ?_, ?_⟩
  · simp [handleCall, stringEQ, decodeLatin1Bytes_latin1]
  · simp [handleCall, stringEQ, decodeLatin1Bytes_latin1]
  · simp [handleCall, hne]
  · simp [handleCall, hne, hne2]
  · simp [handleCall, hne, hne2]

/-- `pickle.dumps([x, x], 2)` with `x = [1, 2]`:  `\x80\x02]q\x00(]q\x01(K\x01K\x02eh\x01e.` -/
def k1Pickle : Bytes := [0x80, 2, 93, 113, 0, 40, 93, 113, 1, 40, 75, 1, 75, 2, 101, 104, 1, 101, 46]

/-- **C02 / K1 witness.** The shared list comes back as `[[1, 2], []]`: the memo kept the slice
    header of the still-empty list. With lists by reference (K1 repaired) it is `[[1, 2], [1, 2]]`. -/
theorem C02_K1_witness (c : Cfg) :
    (decode (goCfg c) none {} k1Pickle).1 = .ok (.list [.list [.int 1, .int 2], .list []]) ∧
    (let r := decode (refCfg c) none {} k1Pickle
     r.1.toOption.map (resolveV r.2.1.heap 3) = some (.list [.list [.int 1, .int 2], .list [.int 1, .int 2]])) := by
  have k1 : memoKey (1 : UInt8).toNat = [49] := natDigits_small.2
  -- the thirteen instructions are read by rewriting, then run by evaluation
  constructor <;>
  · simp only [k1Pickle, decode, List.length, Nat.reduceAdd, decodeLoop_key, readByte, parseArg_128, parseArg_93, parseArg_113,
      parseArg_40, parseArg_75, parseArg_101, parseArg_104, parseArg_46, Rd.map, Rd.bind, Rd.pure, k1]
    rfl

end Ogorek
