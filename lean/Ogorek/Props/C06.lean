import Ogorek.Props.C02
import Ogorek.Lemmas.Step

/-!
  C06 — No disagreement with CPython on any well-formed opcode program.
-/
namespace Ogorek

/-- **C06 (DUP).** DUP pushes the very value on top of the stack: for a dict — a heap reference —
    the same object that later SETITEM(S) extend. -/
theorem C06_dup_same (mc : MCfg) (hook : Hook) (pos : Nat) (st : DState) (v : GoVal) (s : List GoVal)
    (h : st.stack = v :: s) : exec mc hook .dup pos st = .ok { st with stack := v :: v :: s } := by
  dsimp only [exec, push]
  rw [h]

/-- **C06 (GET).** GET of any width pushes the value stored under that key, unchanged. -/
theorem C06_get_same (mc : MCfg) (hook : Hook) (pos : Nat) (st : DState) (key : Bytes) (v : GoVal)
    (h : st.memo.lookup key = some v) : exec mc hook (.get key) pos st = .ok (push st v) := by
  dsimp only [exec, memoGet]
  rw [h]

/-- A dict reached twice through the memo is one heap object: SETITEM through either reference
    changes what the other sees. -/
theorem C06_dict_shared (mc : MCfg) (hook : Hook) (pos : Nat) (st : DState) (id : Nat) (o : HObj) (k v : GoVal)
    (s : List GoVal) (es : Entries)
    (hs : st.stack = v :: k :: .href id :: s) (ho : st.heap[id]? = some o) (hkind : (o.kind == HKind.list) = false)
    (hk : isMark k = false) (hv : isMark v = false) (ha : tryAssign o.kind o.kvs k v = some es) :
    ∃ st', exec mc hook .setitem pos st = .ok st' ∧ st'.heap[id]? = some { o with kvs := es } ∧ st'.memo = st.memo := by
  have hid : id < st.heap.length := (List.getElem?_eq_some_iff.mp ho).1
  refine ⟨heapSet { st with stack := .href id :: s } id { o with kvs := es },
    by rw [exec_setitem hs hk hv ho hkind, ha], ?_, rfl⟩
  simp [heapSet, hid]

/-- `]q\x00K\x01ah\x00\x86.` : a list is memoised, extended, fetched again, paired with itself. -/
def k1Program : Bytes := [93, 113, 0, 75, 1, 97, 104, 0, 0x86, 46]

/-- **C06 / K1 witness.** CPython gives `([1], [1])`; the decoder `([1], [])`: the copy in the memo
    is the stale slice header. -/
theorem C06_K1_witness (c : Cfg) :
    (decode (goCfg c) none {} k1Program).1 = .ok (.tuple [.list [.int 1], .list []]) := by
  have k0 : memoKey (0 : UInt8).toNat = [48] := natDigits_small.1
  simp only [k1Program, decode, List.length, Nat.reduceAdd, decodeLoop_key, readByte, parseArg_93, parseArg_113, parseArg_75,
    parseArg_97, parseArg_104, parseArg_134, parseArg_46, Rd.map, Rd.bind, Rd.pure, k0]
  rfl

/-- **C06 (lists by reference).** In the machine with K1 repaired the same program yields `([1], [1])`:
    the APPEND through the stack reference is seen through the memo reference. -/
theorem C06_ref_appends_shared (c : Cfg) :
    (let r := decode (refCfg c) none {} k1Program
     r.1.toOption.map (resolveV r.2.1.heap 3) = some (.tuple [.list [.int 1], .list [.int 1]])) := by
  have k0 : memoKey (0 : UInt8).toNat = [48] := natDigits_small.1
  simp only [k1Program, decode, List.length, Nat.reduceAdd, decodeLoop_key, readByte, parseArg_93, parseArg_113, parseArg_75,
    parseArg_97, parseArg_104, parseArg_134, parseArg_46, Rd.map, Rd.bind, Rd.pure, k0]
  rfl

end Ogorek
