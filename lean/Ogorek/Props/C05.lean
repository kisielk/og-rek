import Ogorek.Props.C16
import Ogorek.Props.C03
import Ogorek.Lemmas.Bridge
import Ogorek.Lemmas.Resolve
import Ogorek.Lemmas.EncClosed

/-!
  C05 — Every decoded value re-encodes at every protocol and decodes back to itself.

  `C05_encodable`: a resolved decode result (documented types only — C16_resolved — and acyclic)
  is accepted by the encoder at every protocol and StrictUnicode setting, except for the three
  documented limitations: the encoder never answers with a TypeError, never panics.
-/
namespace Ogorek

/-- The encoder stopped, if at all, with one of the three documented limitations. -/
def Documented (o : Out) : Prop :=
  o.err = none ∨ o.err = some .p0Utf8 ∨ o.err = some .p0Persid ∨ o.err = some .p0123Global

theorem Documented.seq {a b : Out} (ha : Documented a) (hb : Documented b) : Documented (a +> b) := by
  unfold Out.seq; split <;> assumption
theorem Documented.emit (bs : Bytes) : Documented (emit bs) := Or.inl rfl
theorem Documented.nil : Documented Out.nil := Or.inl rfl
theorem Documented.closed : EncClosed Documented := ⟨.seq, .emit, .inr (.inl rfl), .inr (.inr (.inr rfl))⟩

mutual
/-- No `cycle` marker: the result is a finite tree. -/
def acyclic : GoVal → Bool
  | .cycle => false
  | .list xs => acyclicList xs
  | .tuple xs => acyclicList xs
  | .call _ _ args => acyclicList args
  | .ref p => acyclic p
  | .map kvs => acyclicPairs kvs
  | .dict kvs => acyclicPairs kvs
  | _ => true
def acyclicList : List GoVal → Bool
  | [] => true
  | x :: xs => acyclic x && acyclicList xs
def acyclicPairs : List (GoVal × GoVal) → Bool
  | [] => true
  | (k, v) :: r => acyclic k && acyclic v && acyclicPairs r
end

mutual
theorem C05_encodable (ip : IsPrint) (ec : ECfg) (c : Cfg) (u : Bool) :
    ∀ v : GoVal, wfRes c u v = true → acyclic v = true → Documented (enc ip ec v)
  | .none => fun _ _ => Documented.emit _
  | .bool b => fun _ _ => Documented.closed.bool _ _
  | .int i => fun _ _ => Documented.closed.int _ _
  | .big _ i => fun _ _ => Documented.emit _
  | .float f => fun _ _ => Documented.closed.float _ _
  | .str s => fun _ _ => Documented.closed.string _ _ _
  | .bytestr s => fun _ _ => Documented.closed.byteString _ _ _
  | .bytes s => fun _ _ => Documented.closed.bytes _ _ _
  | .bytearray s => fun _ _ => Documented.closed.byteArray _ _ _
  | .cls m n => fun _ _ => Documented.closed.cls _ _ _ _
  | .user n => fun _ _ =>
    Documented.seq (Documented.seq (Documented.seq (Documented.emit _) (Documented.closed.string _ _ _)) (Documented.closed.int _ _)) (Documented.emit _)
  | .list xs => fun hw ha => ite_out (Documented.emit _)
      (Documented.seq (Documented.seq (Documented.emit _) (C05_encodableList ip ec c u xs hw ha)) (Documented.emit _))
  | .tuple xs => fun hw ha => Documented.closed.tupleOf _ _ (C05_encodableList ip ec c u xs hw ha)
  | .call m n args => fun hw ha => Documented.seq (Documented.seq (Documented.closed.cls _ _ _ _)
      (Documented.closed.tupleOf _ _ (C05_encodableList ip ec c u args hw ha))) (Documented.emit _)
  | .ref p => fun hw ha => ite_out
      (by split
          · exact ite_out (Or.inr (Or.inr (Or.inl rfl))) (Documented.emit _)
          · exact Or.inr (Or.inr (Or.inl rfl)))
      (Documented.seq (C05_encodable ip ec c u p hw ha) (Documented.emit _))
  | .map kvs | .dict kvs => fun hw ha => ite_out (Documented.emit _)
      (Documented.seq (Documented.seq (Documented.emit _) (C05_encodablePairs ip ec c u kvs (Bool.and_eq_true_iff.mp hw).2 ha))
        (Documented.emit _))
  | .cycle => fun _ ha => nomatch ha
  | .mark | .uint _ | .complex _ _ | .href _ | .nil => fun hw _ => nomatch hw
theorem C05_encodableList (ip : IsPrint) (ec : ECfg) (c : Cfg) (u : Bool) :
    ∀ xs : List GoVal, wfResList c u xs = true → acyclicList xs = true → Documented (encList ip ec xs)
  | [] => fun _ _ => Documented.nil
  | x :: xs => fun hw ha =>
    have hw := Bool.and_eq_true_iff.mp hw
    have ha := Bool.and_eq_true_iff.mp ha
    Documented.seq (C05_encodable ip ec c u x hw.1 ha.1) (C05_encodableList ip ec c u xs hw.2 ha.2)
theorem C05_encodablePairs (ip : IsPrint) (ec : ECfg) (c : Cfg) (u : Bool) :
    ∀ kvs : List (GoVal × GoVal), wfResPairs c u kvs = true → acyclicPairs kvs = true → Documented (encPairs ip ec kvs)
  | [] => fun _ _ => Documented.nil
  | (k, v) :: r => fun hw ha => by
    simp only [wfResPairs, Bool.and_eq_true] at hw
    simp only [acyclicPairs, Bool.and_eq_true] at ha
    exact Documented.seq (Documented.seq (C05_encodable ip ec c u k hw.1.1 ha.1.1) (C05_encodable ip ec c u v hw.1.2 ha.1.2))
      (C05_encodablePairs ip ec c u r hw.2 ha.2)
end


/-- **C05 (decodes back).** Whatever byte string `Decode` accepted (from any state whose containers
    satisfy the decoder's key invariant — in particular a fresh Decoder) and whatever plain value `v`
    its result stands for (`Rep`: the result with its containers unfolded; of documented types, `wfRes`;
    of encodable shape, `shapeOK`: payloads below 4 GiB, no Call of the bytes / bytearray forms, and with
    builtin maps no `*big.Int` keys): at every protocol 0..5 at which `Encode v` returns no error
    (i.e. none of the three documented limitations applies), decoding exactly the bytes written — by any
    Decoder of the same configuration, in any state — succeeds, consumes them all and returns a result
    that stands for the same `v`: identical in type and content to the first result.
    (Protocol 0 only: `FloatsOK`, the float-text hypothesis of `C03_roundtrip`.) -/
theorem C05_decodes_back (ip : IsPrint) (hip : ip 10 = false) (cfg : Cfg) (inp : Bytes) (st0 : DState) (hk0 : HeapKeys st0)
    (r : GoVal) (st' : DState) (rest : Bytes) (hdec : decode (goCfg cfg) none st0 inp = (.ok r, st', rest))
    (v : GoVal) (hrep : Rep (goCfg cfg) GoVal.ref st'.heap r v) (hw : wfRes cfg false v = true) (hs : shapeOK cfg v = true)
    (c : ECfg) (hp0 : 0 ≤ c.proto) (hp5 : c.proto ≤ 5) (hsu : cfg.su = c.su) (hf : FloatsOK c (floatsOf v))
    (he : (encodeTop ip c none v).err = none) (st1 : DState) :
    ∃ r2 st2, decode (goCfg cfg) none st1 (flat (encodeTop ip c none v)) = (.ok r2, st2, []) ∧
      Rep (goCfg cfg) GoVal.ref st2.heap r2 v := by
  have hk' : HeapKeys st' := by
    have := decode_heapKeys (goCfg cfg) none st0 inp hk0
    rw [hdec] at this; exact this
  have hc : canon cfg true v = true := canon_of_rep (mc := goCfg cfg) (fun o ho => (hk' o ho).1) v hrep hw hs
  exact C03_roundtrip ip hip c cfg v hp0 hp5 hsu hc hf he st1


/-- Non-vacuity: the pickle `}(K\x01]K\x02\x85Nu.` — a dict `{1: [], (2,): None}` built with SETITEMS —
    decodes (PyDict on) to a result that stands for that Dict, which meets the theorem's hypotheses. -/
example : ∃ r st', decode (goCfg { pyDict := true, su := false }) none {} [125, 40, 75, 1, 93, 75, 2, 0x85, 78, 117, 46] = (.ok r, st', []) ∧
    Rep (goCfg { pyDict := true, su := false }) GoVal.ref st'.heap r (.dict [(.int 1, .list []), (.tuple [.int 2], .none)]) ∧
    wfRes { pyDict := true, su := false } false (.dict [(.int 1, .list []), (.tuple [.int 2], .none)]) = true ∧
    shapeOK { pyDict := true, su := false } (.dict [(.int 1, .list []), (.tuple [.int 2], .none)]) = true := by
  -- the decoder leaves one Dict in the heap; `Rep` unfolds to its entries, item by item
  exact ⟨.href 0, { heap := [{ kind := .dict, kvs := [(.int 1, .list []), (.tuple [.int 2], .none)] }] }, rfl,
    ⟨0, _, rfl, rfl, rfl, ⟨[], rfl, trivial⟩, ⟨[.int 2], rfl, rfl, trivial⟩, rfl, trivial⟩, rfl, rfl⟩

/-- **C05 (the fuzz target's invariant, for the model).** Whenever a fresh Decoder accepts a byte string
    and the result, with its containers unfolded (`resolveV`), is acyclic (`noCycle`) and of encodable
    shape (`shapeOK`): at every protocol 0..5 at which `Encode` of that value returns no error, decoding
    the bytes written — by any Decoder of the same configuration in any state — succeeds, consumes them
    all and returns a result that stands for the very same value.  No hypothesis about the unfolded value
    remains to be shown by the caller. -/
theorem C05_reencode (ip : IsPrint) (hip : ip 10 = false) (cfg : Cfg) (inp : Bytes)
    (r : GoVal) (st' : DState) (rest : Bytes) (hdec : decode (goCfg cfg) none {} inp = (.ok r, st', rest)) (fuel : Nat)
    (hn : noCycle (resolveV st'.heap fuel r) = true) (hs : shapeOK cfg (resolveV st'.heap fuel r) = true)
    (c : ECfg) (hp0 : 0 ≤ c.proto) (hp5 : c.proto ≤ 5) (hsu : cfg.su = c.su)
    (hf : FloatsOK c (floatsOf (resolveV st'.heap fuel r)))
    (he : (encodeTop ip c none (resolveV st'.heap fuel r)).err = none) (st1 : DState) :
    ∃ r2 st2, decode (goCfg cfg) none st1 (flat (encodeTop ip c none (resolveV st'.heap fuel r))) = (.ok r2, st2, []) ∧
      Rep (goCfg cfg) GoVal.ref st2.heap r2 (resolveV st'.heap fuel r) := by
  obtain ⟨hinv, hwf⟩ := C16_result_wf (goCfg cfg) none (by simp [HookOK]) {} inp r st' rest (Inv.init _ _) hdec
  have hk' : HeapKeys st' := by
    have := decode_heapKeys (goCfg cfg) none {} inp HeapKeys.init
    rw [hdec] at this; exact this
  have hrep := rep_resolve cfg st' hinv (fun o ho => (hk' o ho).2) fuel r hwf hn
  have hw := C16_resolved cfg false st' hinv fuel r hwf
  exact C05_decodes_back ip hip cfg inp {} HeapKeys.init r st' rest hdec _ hrep hw hs c hp0 hp5 hsu hf he st1

end Ogorek
