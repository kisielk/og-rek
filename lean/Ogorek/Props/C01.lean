import Ogorek.Props.C03
import Ogorek.Props.C02
import Ogorek.Props.C12

/-!
  C01 — Encoder output means the documented Python value under CPython's unpickler.
-/
namespace Ogorek

/-- **C01 (integers).** `encodeInt` picks its form by value and protocol only — BININT1 / BININT2 /
    BININT when the protocol allows and the value fits, decimal INT text otherwise — and each form
    reads back as the same integer (`C03_int`). -/
theorem C01_int_forms (c : ECfg) (i : Int) :
    (encodeInt c i).chunks = [if c.proto ≥ 1 ∧ 0 ≤ i ∧ i ≤ 255 then [75, UInt8.ofNat i.toNat]
      else if c.proto ≥ 1 ∧ 0 ≤ i ∧ i ≤ 65535 then [77, UInt8.ofNat (i.toNat % 256), UInt8.ofNat (i.toNat / 256)]
      else if c.proto ≥ 1 ∧ -(2 : Int) ^ 31 ≤ i ∧ i ≤ (2 : Int) ^ 31 - 1 then 74 :: le4 (ofSigned 32 i)
      else 73 :: fmtInt i ++ [10]] := by
  simp only [encodeInt, apply_ite Out.chunks, emit, apply_ite (fun x : Bytes => [x])]

/-- **C01 (Bytes below protocol 3).** The text handed to `_codecs.encode(…, 'latin1')` is the latin-1
    decoding of the bytes, written as UTF-8; decoding it as latin-1 gives the bytes back — which is
    what CPython's `_codecs.encode` computes and what og-rek's own decoder does. -/
theorem C01_bytes_latin1 (d : Bytes) : decodeLatin1Bytes (.str (latin1ToUtf8 d)) = some d :=
  decodeLatin1Bytes_latin1 d

/-- **C01 / K3 witness.** A Go string that is not UTF-8 goes unchanged into BINUNICODE at protocol 3
    (CPython then raises UnicodeDecodeError): the byte 0x93 is written as the payload of an
    `X` opcode of length 1. -/
theorem C01_K3_witness (ip : IsPrint) :
    (encodeTop ip ⟨3, false⟩ none (.str [0x93])).chunks.flatten = [0x80, 3, 88, 1, 0, 0, 0, 0x93, 46] ∧
    validUtf8 [0x93] = false := by
  constructor
  · simp [encodeTop, enc, encodeString, encodeUnicode, emit, Out.seq, le4, natLE]
  · decide

end Ogorek
