import Ogorek.Props.C18
import Ogorek.Props.C03

/-! C18 — the inverse-hooks round trip (on top of the per-call theorems of `Props/C18.lean`). -/

namespace Ogorek

/-- **C03 with a PersistentLoad hook.** The round trip from any decoder state when the Decoder has a
    hook: every Ref the encoder wrote is handed to the hook and replaced by what it returns (`ρ`,
    `HookFor`: never the marker, never an error, the same answer whatever the call index).  `rk = false`:
    no Ref inside a map / Dict key (a hook may turn it into an object of another type). -/
theorem C03_roundtrip_hook (ip : IsPrint) (hip : ip 10 = false) (c : ECfg) (cfg : Cfg) (hook : Hook) (ρ : GoVal → GoVal)
    (hh : HookFor hook ρ) (v : GoVal)
    (hp0 : 0 ≤ c.proto) (hp5 : c.proto ≤ 5) (hsu : cfg.su = c.su)
    (hc : canon cfg false v = true) (hf : FloatsOK c (floatsOf v)) (he : (encodeTop ip c none v).err = none) (st0 : DState) :
    ∃ r st', decode (goCfg cfg) hook st0 (flat (encodeTop ip c none v)) = (.ok r, st', []) ∧
      Rep (goCfg cfg) ρ st'.heap r v := by
  exact decode_encodeTop ip c v hp0 hp5 he
    (rt_val (rk := false) ip hh (fun h => nomatch h) hip hsu rfl v hc hf) (fun _ _ h => h.not_mark) st0

mutual
/-- `r` is the graph `v0` again: like `Rep`, and application object `n` is application object `n`. -/
def RepU (mc : MCfg) (ρ : GoVal → GoVal) (heap : List HObj) (r : GoVal) : GoVal → Prop
  | .user n => r = .user n
  | .list xs => ∃ rs, r = .list rs ∧ RepUList mc ρ heap rs xs
  | .tuple xs => ∃ rs, r = .tuple rs ∧ RepUList mc ρ heap rs xs
  | .call m n args => ∃ rs, r = .call m n rs ∧ RepUList mc ρ heap rs args
  | .map kvs => ∃ id es, r = .href id ∧ heap[id]? = some { kind := dictKind mc.cfg, kvs := es } ∧ RepUPairs mc ρ heap es kvs
  | .dict kvs => ∃ id es, r = .href id ∧ heap[id]? = some { kind := dictKind mc.cfg, kvs := es } ∧ RepUPairs mc ρ heap es kvs
  | v => Rep mc ρ heap r v
def RepUList (mc : MCfg) (ρ : GoVal → GoVal) (heap : List HObj) : List GoVal → List GoVal → Prop
  | [], [] => True
  | r :: rs, x :: xs => RepU mc ρ heap r x ∧ RepUList mc ρ heap rs xs
  | _, _ => False
def RepUPairs (mc : MCfg) (ρ : GoVal → GoVal) (heap : List HObj) : Entries → List (GoVal × GoVal) → Prop
  | [], [] => True
  | (rk, rv) :: es, (k, v) :: kvs => RepU mc ρ heap rk k ∧ RepU mc ρ heap rv v ∧ RepUPairs mc ρ heap es kvs
  | _, _ => False
end

mutual
def noUser : GoVal → Bool
  | .user _ => false
  | .list xs | .tuple xs => noUserList xs
  | .call _ _ args => noUserList args
  | .map kvs | .dict kvs => noUserPairs kvs
  | .ref p => noUser p
  | _ => true
def noUserList : List GoVal → Bool
  | [] => true
  | x :: xs => noUser x && noUserList xs
def noUserPairs : List (GoVal × GoVal) → Bool
  | [] => true
  | (k, v) :: r => noUser k && noUser v && noUserPairs r
end

mutual
theorem substRefs_noUser (g : Nat → Option GoVal) : (v : GoVal) → noUser v = true → substRefs g v = v
  | .user _, h => nomatch h
  | .list xs, h => congrArg GoVal.list (substRefsList_noUser g xs h)
  | .tuple xs, h => congrArg GoVal.tuple (substRefsList_noUser g xs h)
  | .call m n args, h => congrArg (GoVal.call m n) (substRefsList_noUser g args h)
  | .map kvs, h => congrArg GoVal.map (substRefsPairs_noUser g kvs h)
  | .dict kvs, h => congrArg GoVal.dict (substRefsPairs_noUser g kvs h)
  | .ref p, h => congrArg GoVal.ref (substRefs_noUser g p h)
  | .none, _ | .nil, _ | .bool _, _ | .int _, _ | .uint _, _ | .big _ _, _ | .float _, _ | .complex _ _, _ | .str _, _
  | .bytestr _, _ | .bytes _, _ | .bytearray _, _ | .cls _ _, _ | .mark, _ | .href _, _ | .cycle, _ => rfl
theorem substRefsList_noUser (g : Nat → Option GoVal) : (xs : List GoVal) → noUserList xs = true → substRefsList g xs = xs
  | [], _ => rfl
  | x :: xs, h => by
    have h := Bool.and_eq_true_iff.mp h
    show substRefs g x :: substRefsList g xs = x :: xs
    rw [substRefs_noUser g x h.1, substRefsList_noUser g xs h.2]
theorem substRefsPairs_noUser (g : Nat → Option GoVal) : (kvs : List (GoVal × GoVal)) → noUserPairs kvs = true →
    substRefsPairs g kvs = kvs
  | [], _ => rfl
  | (k, v) :: r, h => by
    have h := Bool.and_eq_true_iff.mp h
    have hkv := Bool.and_eq_true_iff.mp h.1
    show (substRefs g k, substRefs g v) :: substRefsPairs g r = (k, v) :: r
    rw [substRefs_noUser g k hkv.1, substRefs_noUser g v hkv.2, substRefsPairs_noUser g r h.2]
end

mutual
/-- Every application object of the graph is mapped to a persistent id, and no explicit Ref holds one. -/
def usersMapped (g : Nat → Option GoVal) : GoVal → Bool
  | .user n => (g n).isSome
  | .list xs | .tuple xs => usersMappedList g xs
  | .call _ _ args => usersMappedList g args
  | .map kvs | .dict kvs => usersMappedPairs g kvs
  | .ref p => noUser p
  | _ => true
def usersMappedList (g : Nat → Option GoVal) : List GoVal → Bool
  | [] => true
  | x :: xs => usersMapped g x && usersMappedList g xs
def usersMappedPairs (g : Nat → Option GoVal) : List (GoVal × GoVal) → Bool
  | [] => true
  | (k, v) :: r => usersMapped g k && usersMapped g v && usersMappedPairs g r
end

section inv
variable {mc : MCfg} {ρ : GoVal → GoVal} {g : Nat → Option GoVal}

mutual
theorem repU_of_rep (hstr : ∀ n pid, g n = some pid → ∃ s, pid = .str s)
    (hinv : ∀ n s, g n = some (.str s) → ρ (.str s) = .user n) {h : List HObj} {r : GoVal} :
    (v0 : GoVal) → usersMapped g v0 = true → Rep mc ρ h r (substRefs g v0) → RepU mc ρ h r v0
  | v0, hm, hr => by
    cases v0 with
    | user n =>
      cases hg : g n with
      | none => rw [show usersMapped g (.user n) = (g n).isSome from rfl, hg] at hm; cases hm
      | some pid =>
        obtain ⟨s, rfl⟩ := hstr n pid hg
        rw [show substRefs g (.user n) = .ref (.str s) by show (match g n with | some pid => GoVal.ref pid | none => .user n) = _; rw [hg]] at hr
        obtain ⟨p, rfl, _, hp⟩ := hr
        exact (congrArg ρ hp).trans (hinv n s hg)
    | list xs | tuple xs | call _ _ xs =>
      obtain ⟨rs, e, hl⟩ := hr
      exact ⟨rs, e, repUList_of_rep hstr hinv xs hm hl⟩
    | map kvs | dict kvs =>
      obtain ⟨id, es, e, hg, hp⟩ := hr
      exact ⟨id, es, e, hg, repUPairs_of_rep hstr hinv kvs hm hp⟩
    | ref p =>
      rw [show substRefs g (.ref p) = .ref (substRefs g p) from rfl, substRefs_noUser g p hm] at hr
      exact hr
    | _ => exact hr
theorem repUList_of_rep (hstr : ∀ n pid, g n = some pid → ∃ s, pid = .str s)
    (hinv : ∀ n s, g n = some (.str s) → ρ (.str s) = .user n) {h : List HObj} : {rs : List GoVal} → (xs : List GoVal) →
    usersMappedList g xs = true → RepList mc ρ h rs (substRefsList g xs) → RepUList mc ρ h rs xs
  | [], [], _, _ => trivial
  | _ :: _, [], _, hr => hr.elim
  | [], _ :: _, _, hr => hr.elim
  | r :: rs, x :: xs, hm, hr =>
    have hm := Bool.and_eq_true_iff.mp hm
    ⟨repU_of_rep hstr hinv x hm.1 hr.1, repUList_of_rep hstr hinv xs hm.2 hr.2⟩
theorem repUPairs_of_rep (hstr : ∀ n pid, g n = some pid → ∃ s, pid = .str s)
    (hinv : ∀ n s, g n = some (.str s) → ρ (.str s) = .user n) {h : List HObj} : {es : Entries} → (kvs : List (GoVal × GoVal)) →
    usersMappedPairs g kvs = true → RepPairs mc ρ h es (substRefsPairs g kvs) → RepUPairs mc ρ h es kvs
  | [], [], _, _ => trivial
  | _ :: _, [], _, hr => hr.elim
  | [], _ :: _, _, hr => hr.elim
  | (rk, rv) :: es, (k, v) :: kvs, hm, hr =>
    have hm := Bool.and_eq_true_iff.mp hm
    have hkv := Bool.and_eq_true_iff.mp hm.1
    ⟨repU_of_rep hstr hinv k hkv.1 hr.1, repU_of_rep hstr hinv v hkv.2 hr.2.1, repUPairs_of_rep hstr hinv kvs hm.2 hr.2.2⟩
end

end inv

/-- **C18 (inverse hooks restore the graph).** `Encode` with a `PersistentRef` that maps every application
    object of the graph to a string id, followed by `Decode` with a `PersistentLoad` that answers each of
    those ids with the object it came from (`hinv`; for other ids any answer allowed by `HookFor`), returns
    the graph again: the same application objects at the same places, everything else identical in type
    and content — at every protocol 0..5 (the protocol-0 limitation on ids shows as `Encode`'s error,
    excluded by `he`), for both modes, from any decoder state. -/
theorem C18_inverse_hooks (ip : IsPrint) (hip : ip 10 = false) (c : ECfg) (cfg : Cfg)
    (g : Nat → Option GoVal) (load : Nat → GoVal → LoadResult) (ρ : GoVal → GoVal)
    (hh : HookFor (some load) ρ)
    (hstr : ∀ n pid, g n = some pid → ∃ s, pid = .str s)
    (hinv : ∀ n s, g n = some (.str s) → ρ (.str s) = .user n)
    (v0 : GoVal) (hm : usersMapped g v0 = true)
    (hp0 : 0 ≤ c.proto) (hp5 : c.proto ≤ 5) (hsu : cfg.su = c.su)
    (hc : canon cfg false (substRefs g v0) = true) (hf : FloatsOK c (floatsOf (substRefs g v0)))
    (he : (encodeTop ip c (some g) v0).err = none) (st0 : DState) :
    ∃ r st', decode (goCfg cfg) (some load) st0 (flat (encodeTop ip c (some g) v0)) = (.ok r, st', []) ∧
      RepU (goCfg cfg) ρ st'.heap r v0 := by
  obtain ⟨r, st', hdec, hrep⟩ := C03_roundtrip_hook ip hip c cfg (some load) ρ hh _ hp0 hp5 hsu hc hf he st0
  exact ⟨r, st', hdec, repU_of_rep hstr hinv v0 hm hrep⟩

/-- Non-vacuity: a PersistentRef mapping object 7 to the id "k7", the inverse PersistentLoad, and a graph
    `[obj7, (obj7, 1)]` meet the hypotheses of `C18_inverse_hooks`. -/
example :
    let g : Nat → Option GoVal := fun n => if n = 7 then some (.str (sb "k7")) else none
    let load : Nat → GoVal → LoadResult := fun _ r =>
      match r with
      | .ref (.str s) => if s = sb "k7" then .replace (.user 7) else .keep
      | _ => .keep
    let ρ : GoVal → GoVal := fun p =>
      match p with
      | .str s => if s = sb "k7" then .user 7 else .ref (.str s)
      | q => .ref q
    HookFor (some load) ρ ∧ (∀ n pid, g n = some pid → ∃ s, pid = .str s) ∧
      (∀ n s, g n = some (.str s) → ρ (.str s) = .user n) ∧
      usersMapped g (.list [.user 7, .tuple [.user 7, .int 1]]) = true ∧
      canon { pyDict := true, su := false } false (substRefs g (.list [.user 7, .tuple [.user 7, .int 1]])) = true := by
  intro g load ρ
  refine ⟨⟨?_, ?_⟩, ?_, ?_, by decide, by decide⟩
  · intro p
    cases p with
    | str s => show isMark (if s = sb "k7" then .user 7 else .ref (.str s)) = false; split <;> rfl
    | _ => rfl
  · intro idx p
    cases p
    case str s =>
      simp only [load, ρ]
      split
      · exact Or.inl rfl
      · exact Or.inr ⟨rfl, rfl⟩
    all_goals exact Or.inr ⟨rfl, rfl⟩
  · intro n pid h
    simp only [g] at h
    split at h
    · exact ⟨_, (Option.some.inj h).symm⟩
    · cases h
  · intro n s h
    simp only [g] at h
    split at h
    · rename_i hn
      have hs : s = sb "k7" := by
        have := Option.some.inj h; cases this; rfl
      subst hn; subst hs
      simp [ρ]
    · cases h

end Ogorek
