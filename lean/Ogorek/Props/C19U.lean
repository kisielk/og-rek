import Ogorek.Props.C19
import Ogorek.Lemmas.CpRueInv
import Ogorek.Lemmas.CPickleSForms
import Ogorek.Lemmas.QuoteInv
import Ogorek.Py2Repr

/-!
  C19 — the UNICODE text form as CPython writes it: every text that is valid UTF-8, escaped by the pickler's own
  `raw_unicode_escape` (backslash, LF, CR, NUL and 0x1a as `\u00XX`, code points from U+0100 on as `\uXXXX` / `\UXXXXXXXX`,
  Latin-1 characters as single bytes), is read back exactly, whatever follows the line
  (`C19_UNICODE_cpython`); and the STRING text form as Python 2's pickler writes it, `repr` of the byte string
  in either quote, likewise (`C19_STRING_py2repr`).
-/
namespace Ogorek

/-- **C19 (UNICODE as written by CPython's pickler, protocol 0).** -/
theorem C19_UNICODE_cpython (s u t : Bytes) (h : cpRue s = some u) :
    parseInsn (86 :: (u ++ 10 :: t)) = .ok (.pushStr s, t) := by
  have hinv := cpRue_inv s u h
  have hlf := cpRue_no_lf s u h
  refine parseInsn_of parseArg_86 (Rd.mapE_ok (readLine_line _ _ hlf) ?_)
  rw [parseUnicodeArg, hinv]

/-- … and AsString of the decoded value is that text, in both StrictUnicode modes. -/
theorem C19_UNICODE_cpython_asString (s : Bytes) (su : Bool) (id : Nat) :
    (pushedValue su id (.pushStr s)).bind asString = some s := (C19_helpers s su id).2.1

theorem py2reprByte_dec (q : UInt8) (hq : q = 34 ∨ q = 39) (b : UInt8) (rest t : Bytes) (ih : pydecodeStringEscape rest = .ok t) :
    pydecodeStringEscape (py2reprByte q b ++ rest) = .ok (b :: t) := by
  unfold py2reprByte
  by_cases h1 : (b = q || b = 92) = true
  · simp only [h1, if_true, List.cons_append, List.nil_append]
    refine dse_bs_quote b ?_ _ _ ih
    simp only [Bool.or_eq_true, decide_eq_true_eq] at h1
    rcases h1 with rfl | rfl
    · rcases hq with rfl | rfl <;> simp
    · simp
  · simp only [h1, Bool.false_eq_true, if_false]
    simp only [Bool.or_eq_true, decide_eq_true_eq, not_or] at h1
    by_cases h9 : b = 9
    · subst h9; exact dse_ctrlEscape (e := 116) rfl _ _ ih
    · simp only [h9, if_false]
      by_cases h10 : b = 10
      · subst h10; exact dse_ctrlEscape (e := 110) rfl _ _ ih
      · simp only [h10, if_false]
        by_cases h13 : b = 13
        · subst h13; exact dse_ctrlEscape (e := 114) rfl _ _ ih
        · simp only [h13, if_false]
          by_cases hx : (b < 32 || b ≥ 127) = true
          · simp only [hx, if_true]
            exact dse_hex b _ _ ih
          · simp only [hx, Bool.false_eq_true, if_false, List.cons_append, List.nil_append]
            exact dse_copy b _ _ h1.2 ih

theorem py2repr_body_inv (q : UInt8) (hq : q = 34 ∨ q = 39) : (s rest t : Bytes) → pydecodeStringEscape rest = .ok t →
    pydecodeStringEscape (s.flatMap (py2reprByte q) ++ rest) = .ok (s ++ t)
  | [], rest, t, h => by simpa using h
  | b :: s, rest, t, h => by
    have ih := py2repr_body_inv q hq s rest t h
    simp only [List.flatMap_cons, List.append_assoc, List.cons_append]
    exact py2reprByte_dec q hq b _ _ ih

theorem py2reprByte_no_lf (q b : UInt8) (hq : q = 34 ∨ q = 39) : (10 : UInt8) ∉ py2reprByte q b := by
  unfold py2reprByte
  by_cases h1 : (b = q || b = 92) = true
  · simp only [h1, if_true]
    simp only [Bool.or_eq_true, decide_eq_true_eq] at h1
    rcases h1 with rfl | rfl
    · rcases hq with rfl | rfl <;> decide
    · decide
  · simp only [h1, Bool.false_eq_true, if_false]
    by_cases h9 : b = 9
    · simp [h9]
    · simp only [h9, if_false]
      by_cases h10 : b = 10
      · simp [h10]
      · simp only [h10, if_false]
        by_cases h13 : b = 13
        · simp [h13]
        · simp only [h13, if_false]
          by_cases hx : (b < 32 || b ≥ 127) = true
          · simp only [hx, if_true]
            exact hexEscape_no_lf b
          · simp only [hx, Bool.false_eq_true, if_false, List.mem_cons, List.not_mem_nil, or_false]
            exact fun hh => h10 hh.symm

theorem py2quoteChar_cases (s : Bytes) : py2quoteChar s = 34 ∨ py2quoteChar s = 39 := by
  unfold py2quoteChar; split <;> simp

/-- **C19 (STRING as Python 2's pickler writes it).**  For EVERY byte string `s`, the line `S` + `repr(s)` + LF — single or
    double quotes as `repr` chooses, backslash / quote / TAB / LF / CR escapes, `\xNN` for the other bytes outside 0x20..0x7e — is
    read back as exactly `s` (a Python-2 str: `pushByteString`), whatever follows the line. -/
theorem C19_STRING_py2repr (s t : Bytes) :
    parseInsn (83 :: (py2repr s ++ 10 :: t)) = .ok (.pushByteString s, t) := by
  have hq := py2quoteChar_cases s
  have hbody := py2repr_body_inv (py2quoteChar s) hq s [] [] (by rw [pydecodeStringEscape.eq_def])
  simp only [List.append_nil] at hbody
  have hnolf : (10 : UInt8) ∉ py2repr s := by
    unfold py2repr
    intro hm
    simp only [List.mem_cons, List.mem_append, List.mem_flatMap, List.not_mem_nil, or_false] at hm
    rcases hm with hm | ⟨b, _, hb⟩ | hm
    · rcases hq with h | h <;> rw [h] at hm <;> exact absurd hm (by decide)
    · exact py2reprByte_no_lf _ b hq hb
    · rcases hq with h | h <;> rw [h] at hm <;> exact absurd hm (by decide)
  have hps : parseStringArg (py2repr s) = .ok s := by
    unfold parseStringArg py2repr
    have hlen : ¬ ((py2quoteChar s :: (s.flatMap (py2reprByte (py2quoteChar s)) ++ [py2quoteChar s])).length < 2) := by simp
    simp only [hlen, if_false]
    rcases hq with h | h <;> simp [h] at hbody ⊢ <;> simp [hbody]
  refine parseInsn_of parseArg_83 (Rd.mapE_ok (readLine_line _ _ hnolf) ?_)
  rw [hps]; rfl

end Ogorek
