import Ogorek.Props.C08

/-!
  C08 (continued) — frame and size laws of the Dict table, for every `pick`.

  `C08.lean` says what `Set` / `Del` do to the key they name; this file says what they leave
  alone (a query unrelated to the key sees the same candidates before and after), that `Get`
  after `Del` of the same key finds nothing, and how `Len` moves.
-/
namespace Ogorek

/-- **C08 (Get after Del).** Right after `Del k`, `Get k` finds nothing — whatever the table picks. -/
theorem C08_get_after_del (pick : Entries → Nat) (es : Entries) (k : GoVal) :
    tableGet pick (dictDel pick es k) k = none := by
  unfold tableGet
  simp [C08_del_none]

/-- **C08 (frame, Del).** A query none of whose candidates equals `k` sees the same candidates,
    in the same order, before and after `Del k`. -/
theorem C08_frame_del (pick : Entries → Nat) (es : Entries) (k q : GoVal)
    (hsep : ∀ e ∈ es, goEqual q e.1 = true → goEqual k e.1 = false) :
    matching (dictDel pick es k) q = matching es q := by
  rw [C08_del]
  unfold matching
  rw [List.filter_filter]
  apply List.filter_congr
  intro e he
  cases hq : goEqual q e.1 with
  | false => simp
  | true => simp [hsep e he hq]

/-- **C08 (frame, Set).** A query that is not equal to `k`, and none of whose candidates equals `k`,
    sees the same candidates before and after `Set k v`. -/
theorem C08_frame_set (pick : Entries → Nat) (es : Entries) (k v q : GoVal)
    (hqk : goEqual q k = false)
    (hsep : ∀ e ∈ es, goEqual q e.1 = true → goEqual k e.1 = false) :
    matching (dictSet pick es k v) q = matching es q := by
  unfold dictSet
  have h := C08_frame_del pick es k q hsep
  unfold matching at h ⊢
  rw [List.filter_append, h]
  simp [hqk]

/-- **C08 (frame, Get).** With a single candidate (the invariant `C08_inv` plus transitivity around
    the query — `C08_match_unique`), `Get q` returns the same value before and after a `Set` or `Del`
    of an unrelated key, whatever the table picks on either side. -/
theorem C08_get_frame (pick pick' : Entries → Nat) (es es' : Entries) (q : GoVal)
    (hm : matching es' q = matching es q) (h1 : (matching es q).length ≤ 1) :
    tableGet pick' es' q = tableGet pick es q := by
  unfold tableGet
  simp only [hm]
  by_cases h0 : (matching es q).length = 0
  · simp [h0]
  · have : (matching es q).length = 1 := by omega
    simp [this, Nat.mod_one]

/-- **C08 (Len, Del).** `Del k` shrinks `Len` by exactly the number of entries equal to `k`. -/
theorem C08_len_del (pick : Entries → Nat) (es : Entries) (k : GoVal) :
    (dictDel pick es k).length + (matching es k).length = es.length := by
  rw [C08_del]
  unfold matching
  induction es with
  | nil => simp
  | cons x xs ih =>
    simp only [List.filter_cons]
    cases goEqual k x.1 <;> simp <;> omega

/-- **C08 (Len, Set).** `Set k v` leaves one entry for `k`: `Len` grows by one minus the number of
    entries equal to `k` that were there. -/
theorem C08_len_set (pick : Entries → Nat) (es : Entries) (k v : GoVal) :
    (dictSet pick es k v).length + (matching es k).length = es.length + 1 := by
  unfold dictSet
  have := C08_len_del pick es k
  simp only [List.length_append, List.length_cons, List.length_nil]
  omega

/-- Under the invariant, with `k` equal to itself (every hashable key but NaN-holding ones) and
    equality transitive around `k`, `Set` of a present key keeps `Len` and of an absent key adds one. -/
theorem C08_len_set_inv (pick : Entries → Nat) (es : Entries) (k v : GoVal) (hinv : NoEqualKeys es)
    (htrans : ∀ e1 ∈ es, ∀ e2 ∈ es, goEqual k e1.1 = true → goEqual k e2.1 = true → goEqual e1.1 e2.1 = true) :
    (dictSet pick es k v).length = es.length ∨ (dictSet pick es k v).length = es.length + 1 := by
  have h1 := C08_match_unique es k hinv htrans
  have h2 := C08_len_set pick es k v
  omega

/-- Number of `Set` operations in a history. -/
def setCount : List DictOp → Nat
  | [] => 0
  | .set _ _ :: ops => setCount ops + 1
  | _ :: ops => setCount ops

theorem C08_len_step (pick : Entries → Nat) (es : Entries) (op : DictOp) :
    (dictStep pick es op).length ≤ es.length + setCount [op] := by
  cases op with
  | get k => simp [dictStep, setCount]
  | del k => have := C08_len_del pick es k; simp only [dictStep, setCount]; omega
  | set k v => have := C08_len_set pick es k v; simp only [dictStep, setCount]; omega

/-- **C08 (Len, histories).** After any history on an empty Dict — for every way the table resolves
    its choices — `Len` is at most the number of `Set` operations performed: no operation ever
    creates an entry that was not set, and `Del` / `Get` create none. -/
theorem C08_len_bound (pick : Entries → Nat) (ops : List DictOp) :
    (ops.foldl (dictStep pick) []).length ≤ setCount ops := by
  suffices ∀ es : Entries, (ops.foldl (dictStep pick) es).length ≤ es.length + setCount ops by
    simpa using this []
  induction ops with
  | nil => intro es; simp [setCount]
  | cons op ops ih =>
    intro es
    have h1 := ih (dictStep pick es op)
    have h2 := C08_len_step pick es op
    have h3 : setCount (op :: ops) = setCount [op] + setCount ops := by
      cases op <;> simp [setCount] <;> omega
    simp only [List.foldl_cons]
    omega

/-- Every stored entry was put there by a `Set` of the history (keys and values are never invented). -/
theorem C08_entries_from_sets (pick : Entries → Nat) (ops : List DictOp) (e : GoVal × GoVal)
    (he : e ∈ ops.foldl (dictStep pick) []) : DictOp.set e.1 e.2 ∈ ops := by
  suffices ∀ es : Entries, e ∈ ops.foldl (dictStep pick) es → e ∈ es ∨ DictOp.set e.1 e.2 ∈ ops by
    rcases this [] he with h | h
    · simp at h
    · exact h
  clear he
  induction ops with
  | nil => intro es h; left; simpa using h
  | cons op ops ih =>
    intro es h
    simp only [List.foldl_cons] at h
    rcases ih _ h with h | h
    · cases op with
      | get k => left; simpa [dictStep] using h
      | del k =>
        simp only [dictStep, C08_del, List.mem_filter] at h
        left; exact h.1
      | set k v =>
        rw [dictStep, C08_set] at h
        rcases mem_dictSetSpec.mp h with h | rfl
        · left; exact h.1
        · right; exact List.mem_cons_self
    · right; exact List.mem_cons_of_mem _ h

/-- **C08 (Get, histories).** Whatever `Get q` returns after any history was set by a `Set` of that
    history under a key equal to `q` — `Get` never returns a value for an unrelated key, and never
    invents one. -/
theorem C08_get_from_sets (pick pick' : Entries → Nat) (ops : List DictOp) (q v : GoVal)
    (h : tableGet pick' (ops.foldl (dictStep pick) []) q = some v) :
    ∃ k, goEqual q k = true ∧ DictOp.set k v ∈ ops := by
  rcases C08_get_any pick' (ops.foldl (dictStep pick) []) q with ⟨_, hn⟩ | ⟨e, he, hq, hg⟩
  · rw [hn] at h; exact absurd h (by simp)
  · rw [hg] at h
    have hv : e.2 = v := by simpa using h
    exact ⟨e.1, hq, hv ▸ C08_entries_from_sets pick ops e he⟩

/-- Non-vacuity: an int key set beside a string key — the string query's candidates are untouched. -/
example : matching (dictSetSpec [(.str [97], .int 1)] (.int 5) (.int 2)) (.str [97]) =
    matching [(.str [97], .int 1)] (.str [97]) := rfl

end Ogorek
