import Ogorek.Props.C07T

/-!
  C08 (refinement) — away from ByteStrings the Dict IS the abstract map: after any history, `Get q`
  is decided by the latest operation whose key equals `q` (`specGet`), for every way the table
  resolves its choices.
-/
namespace Ogorek

/-- The abstract map, read off the history latest-first. -/
def specGet (q : GoVal) : List DictOp → Option GoVal
  | [] => none
  | .set k v :: rest => if goEqual q k then some v else specGet q rest
  | .del k :: rest => if goEqual q k then none else specGet q rest
  | .get _ :: rest => specGet q rest

def keyOK (k : GoVal) : Bool := noBS k && rangeOK k

def opOK : DictOp → Bool
  | .set k _ => keyOK k
  | .del k => keyOK k
  | .get _ => true

/-- The history applied latest-first (`runRev pick ops.reverse` is the `foldl` of `C08_inv`). -/
def runRev (pick : Entries → Nat) : List DictOp → Entries
  | [] => []
  | op :: rest => dictStep pick (runRev pick rest) op

def TGood (es : Entries) : Prop := NoEqualKeys es ∧ ∀ e ∈ es, keyOK e.1 = true

theorem TGood.step (pick : Entries → Nat) (es : Entries) (op : DictOp) (h : TGood es) (ho : opOK op = true) :
    TGood (dictStep pick es op) := by
  refine ⟨C08_inv_step pick es op h.1, ?_⟩
  intro e he
  cases op with
  | get k => exact h.2 e (by simpa [dictStep] using he)
  | del k =>
    simp only [dictStep, C08_del, List.mem_filter] at he
    exact h.2 e he.1
  | set k v =>
    rw [dictStep, C08_set] at he
    rcases mem_dictSetSpec.mp he with he | rfl
    · exact h.2 e he.1
    · exact ho

theorem TGood.run (pick : Entries → Nat) : ∀ rops : List DictOp, (∀ op ∈ rops, opOK op = true) → TGood (runRev pick rops)
  | [], _ => ⟨List.Pairwise.nil, by simp [runRev]⟩
  | op :: rest, h => TGood.step pick _ op (TGood.run pick rest (fun o ho => h o (List.mem_cons_of_mem _ ho))) (h op (by simp))

theorem keyOK_iff {k : GoVal} : keyOK k = true ↔ noBS k = true ∧ rangeOK k = true := by
  simp only [keyOK, Bool.and_eq_true]

theorem keyOK_trans {a b c : GoVal} (ha : keyOK a = true) (hb : keyOK b = true) (hc : keyOK c = true)
    (h1 : goEqual a b = true) (h2 : goEqual b c = true) : goEqual a c = true :=
  C07_trans a b c (keyOK_iff.mp ha).2 (keyOK_iff.mp hb).2 (keyOK_iff.mp hc).2 (keyOK_iff.mp hb).1 h1 h2

theorem TGood.unique {es : Entries} (h : TGood es) (q : GoVal) (hq : keyOK q = true) : (matching es q).length ≤ 1 :=
  C08_match_unique es q h.1 (fun e1 m1 e2 m2 g1 g2 =>
    keyOK_trans (h.2 e1 m1) hq (h.2 e2 m2) (by rw [C07_symm]; exact g1) g2)

/-- A query not equal to `k` has no candidate equal to `k` (transitivity through the stored key). -/
theorem TGood.sep {es : Entries} (h : TGood es) (q k : GoVal) (hq : keyOK q = true) (hk : keyOK k = true)
    (hqk : goEqual q k = false) : ∀ e ∈ es, goEqual q e.1 = true → goEqual k e.1 = false := by
  intro e he hqe
  cases hke : goEqual k e.1 with
  | false => rfl
  | true =>
    rw [keyOK_trans hq (h.2 e he) hk hqe (by rw [C07_symm]; exact hke)] at hqk
    cases hqk

theorem C08_step_spec (pick pick' pick'' : Entries → Nat) (es : Entries) (op : DictOp) (q : GoVal)
    (h : TGood es) (ho : opOK op = true) (hq : keyOK q = true) :
    tableGet pick' (dictStep pick es op) q =
      (match op with
       | .set k v => if goEqual q k then some v else tableGet pick'' es q
       | .del k => if goEqual q k then none else tableGet pick'' es q
       | .get _ => tableGet pick'' es q) := by
  cases op with
  | get k => exact C08_get_frame pick'' pick' es es q rfl (h.unique q hq)
  | set k v =>
    have hk : keyOK k = true := ho
    cases hqk : goEqual q k with
    | true =>
      -- every candidate of `q` other than the new entry would equal `k` and has been removed
      simp only [dictStep, hqk, if_true]
      rw [C08_set]
      refine C08_get_after_set pick' es k v q hqk (fun e he hke => ?_)
      cases hqe : goEqual q e.1 with
      | false => rfl
      | true =>
        rw [keyOK_trans hk hq (h.2 e he) (by rw [C07_symm]; exact hqk) hqe] at hke
        cases hke
    | false =>
      simp only [dictStep, hqk, Bool.false_eq_true, if_false]
      exact C08_get_frame pick'' pick' es _ q (C08_frame_set pick es k v q hqk (h.sep q k hq hk hqk)) (h.unique q hq)
  | del k =>
    have hk : keyOK k = true := ho
    cases hqk : goEqual q k with
    | true =>
      -- every candidate of `q` equals `k` and has been removed
      simp only [dictStep, hqk, if_true]
      have hm : matching (dictDel pick es k) q = [] := by
        rw [C08_del]
        apply List.filter_eq_nil_iff.mpr
        intro e he hqe
        rw [List.mem_filter, keyOK_trans hk hq (h.2 e he.1) (by rw [C07_symm]; exact hqk) hqe] at he
        cases he.2
      unfold tableGet
      rw [hm]
      rfl
    | false =>
      simp only [dictStep, hqk, Bool.false_eq_true, if_false]
      exact C08_get_frame pick'' pick' es _ q (C08_frame_del pick es k q (h.sep q k hq hk hqk)) (h.unique q hq)

/-- **C08 (refinement).** After any history whose keys hold no ByteString — for every way the table
    resolves its choices, at every step and in the final `Get` — `Get q` is what the abstract map says:
    the value of the latest `Set` under a key equal to `q`, unless a later `Del` of such a key removed it. -/
theorem C08_refines (pick pick' : Entries → Nat) (q : GoVal) (hq : keyOK q = true) :
    ∀ rops : List DictOp, (∀ op ∈ rops, opOK op = true) → tableGet pick' (runRev pick rops) q = specGet q rops
  | [], _ => by simp [runRev, specGet, tableGet, matching]
  | op :: rest, h => by
    have hg := TGood.run pick rest (fun o ho => h o (List.mem_cons_of_mem _ ho))
    have ih := C08_refines pick pick' q hq rest (fun o ho => h o (List.mem_cons_of_mem _ ho))
    have hs := C08_step_spec pick pick' pick' (runRev pick rest) op q hg (h op (by simp)) hq
    simp only [runRev]
    rw [hs]
    cases op <;> simp only [specGet, ih]

/-- The same for the left-to-right `foldl` of `C08_inv`. -/
theorem C08_refines_foldl (pick pick' : Entries → Nat) (q : GoVal) (hq : keyOK q = true) (ops : List DictOp)
    (h : ∀ op ∈ ops, opOK op = true) :
    tableGet pick' (ops.foldl (dictStep pick) []) q = specGet q ops.reverse := by
  have hr : ∀ l : List DictOp, runRev pick l = l.foldr (fun op es => dictStep pick es op) [] := by
    intro l; induction l with
    | nil => rfl
    | cons a l ih => simp [runRev, ih]
  rw [← C08_refines pick pick' q hq ops.reverse (fun o ho => h o (by simpa using ho)), hr, List.foldr_reverse]

example : specGet (.int 1) [.del (.str [97]), .set (.uint 2) (.int 9), .set (.bool true) (.int 7), .set (.int 1) (.int 5)] = some (.int 7) := rfl

/-- Non-vacuity: the refinement applied to a concrete history (hypotheses discharged by computation). -/
example : tableGet (fun _ => 3) (runRev (fun _ => 5) [.set (.int 1) (.int 5), .del (.str [97])]) (.bool true) = some (.int 5) := by
  rw [C08_refines (fun _ => 5) (fun _ => 3) (.bool true) rfl _ (by decide)]
  rfl

end Ogorek
