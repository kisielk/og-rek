import Ogorek.Lemmas.Num
import Ogorek.Lemmas.Reader
import Ogorek.Lemmas.Keys
import Ogorek.Conv
import Ogorek.Dict

/-!
  C19 — Integer and string helpers are independent of the pickle representation.

  For every integer `n` and every opcode form able to carry it, the instruction the decoder
  reads pushes a value on which `AsInt64` answers `n` exactly when `n` fits int64; for every
  payload and each binary string/bytes opcode the pushed value carries the payload unchanged and
  `AsString` / `AsBytes` accept exactly the documented kinds.
-/
namespace Ogorek

/-- The value an instruction pushes (for the push-only instructions), under configuration `su`;
    `id` is the allocation id a long gets. -/
def pushedValue (su : Bool) (id : Nat) : Insn → Option GoVal
  | .pushInt i => some (.int i)
  | .pushBig i => some (.big id i)
  | .pushBool b => some (.bool b)
  | .pushByteString s => some (if su then .bytestr s else .str s)
  | .pushStr s => some (.str s)
  | .pushBytes s => some (.bytes s)
  | .pushBytearray s => some (.bytearray s)
  | _ => none

/-- What `AsInt64` must answer for the mathematical integer `n`. -/
def int64Spec (n : Int) : Option Int := if inInt64 n then some n else none


theorem asInt64_pushInt (su : Bool) (id : Nat) {n : Int} (h : inInt64 n = true) :
    (pushedValue su id (.pushInt n)).bind asInt64 = int64Spec n := by
  rw [int64Spec, if_pos h]; rfl

theorem asInt64_pushBig (su : Bool) (id : Nat) (n : Int) : (pushedValue su id (.pushBig n)).bind asInt64 = int64Spec n := rfl

theorem C19_INT (n : Int) (t : Bytes) (su : Bool) (id : Nat) :
    ∃ i, parseInsn (73 :: fmtInt n ++ 10 :: t) = .ok (i, t) ∧
      (pushedValue su id i).bind asInt64 = int64Spec n := by
  refine ⟨_, parseInsn_of parseArg_73 (Rd.mapE_ok (readLine_line _ _ (fmtInt_no_lf n)) (parseIntArg_fmtInt n)), ?_⟩
  split
  · exact asInt64_pushInt su id ‹_›
  · exact asInt64_pushBig su id n

theorem C19_LONG (n : Int) (t : Bytes) (su : Bool) (id : Nat) :
    ∃ i, parseInsn (76 :: fmtInt n ++ 76 :: 10 :: t) = .ok (i, t) ∧
      (pushedValue su id i).bind asInt64 = int64Spec n := by
  have hl : (10 : UInt8) ∉ fmtInt n ++ [76] := by
    simp; exact fmtInt_no_lf n
  have hrl := readLine_line _ t hl
  rw [List.append_assoc] at hrl
  refine ⟨_, parseInsn_of parseArg_76 (Rd.mapE_ok hrl (?_ : _ = Except.ok (.pushBig n))), asInt64_pushBig su id n⟩
  simp [parseLongArg, parseDecimal_fmtInt]

theorem C19_BININT1 (b : UInt8) (t : Bytes) (su : Bool) (id : Nat) :
    ∃ i, parseInsn (75 :: b :: t) = .ok (i, t) ∧
      (pushedValue su id i).bind asInt64 = int64Spec b.toNat := by
  refine ⟨_, parseInsn_of parseArg_75 (Rd.map_ok _ rfl), asInt64_pushInt su id ((inInt64_iff _).mpr ?_)⟩
  have := b.toNat_lt
  omega

theorem C19_BININT2 (n : Nat) (hn : n < 65536) (t : Bytes) (su : Bool) (id : Nat) :
    ∃ i, parseInsn (77 :: natLE 2 n ++ t) = .ok (i, t) ∧
      (pushedValue su id i).bind asInt64 = int64Spec n := by
  refine ⟨_, parseInsn_of parseArg_77 (Rd.map_ok _ (readFull_exact 2 _ t (natLE_length 2 n))), ?_⟩
  rw [leNat_natLE_of_lt (show n < 256 ^ 2 from hn)]
  exact asInt64_pushInt su id ((inInt64_iff _).mpr (by omega))

theorem C19_BININT (n : Int) (h1 : -(2 : Int) ^ 31 ≤ n) (h2 : n ≤ (2 : Int) ^ 31 - 1) (t : Bytes) (su : Bool) (id : Nat) :
    ∃ i, parseInsn (74 :: natLE 4 (ofSigned 32 n) ++ t) = .ok (i, t) ∧
      (pushedValue su id i).bind asInt64 = int64Spec n := by
  refine ⟨_, parseInsn_of parseArg_74 (Rd.map_ok _ (readFull_exact 4 _ t (natLE_length 4 _))), ?_⟩
  rw [toSigned_ofSigned_32 n h1 h2]
  exact asInt64_pushInt su id ((inInt64_iff _).mpr (by omega))

/-- **C19 (LONG1).** Any width `1 ≤ k ≤ 255` into which `n` fits (CPython writes the minimal
    one; 128 ≤ k ≤ 255 is the range repaired by F1). -/
theorem C19_LONG1 (k : Nat) (n : Int) (hk : 0 < k) (hk2 : k < 256)
    (h1 : -((256 : Int) ^ k) ≤ 2 * n) (h2 : 2 * n < (256 : Int) ^ k) (t : Bytes) (su : Bool) (id : Nat) :
    ∃ i, parseInsn (0x8a :: UInt8.ofNat k :: twos k n ++ t) = .ok (i, t) ∧
      (pushedValue su id i).bind asInt64 = int64Spec n := by
  have hl : (twos k n).length = k := natLE_length _ _
  have hkb : (UInt8.ofNat k).toNat = k := by simp [UInt8.toNat_ofNat']; omega
  have hc := copyN_exact (twos k n) t
  rw [hl] at hc
  have hc : readCounted1 (UInt8.ofNat k :: twos k n ++ t) = .ok (twos k n, t) := by
    rw [readCounted1, Rd.bind_ok rfl, hkb]
    exact hc
  refine ⟨_, parseInsn_of parseArg_138 (Rd.map_ok _ hc), ?_⟩
  rw [decodeLong_twos k n hk h1 h2]
  exact asInt64_pushBig su id n

/-- LONG1 with an empty payload is zero. -/
theorem C19_LONG1_zero (t : Bytes) : parseInsn (0x8a :: 0 :: t) = .ok (.pushBig 0, t) := by
  rfl

/-- **C19 (binary string / bytes forms).** Each counted opcode delivers its payload unchanged,
    as the documented kind. -/
theorem C19_counted (s t : Bytes) :
    (s.length < 2 ^ 32 → parseInsn (84 :: (natLE 4 s.length ++ (s ++ t))) = .ok (.pushByteString s, t)) ∧
    (s.length < 256 → parseInsn (85 :: UInt8.ofNat s.length :: (s ++ t)) = .ok (.pushByteString s, t)) ∧
    (s.length < 2 ^ 32 → parseInsn (88 :: (natLE 4 s.length ++ (s ++ t))) = .ok (.pushStr s, t)) ∧
    (s.length < 256 → parseInsn (0x8c :: UInt8.ofNat s.length :: (s ++ t)) = .ok (.pushStr s, t)) ∧
    (s.length < 2 ^ 32 → parseInsn (66 :: (natLE 4 s.length ++ (s ++ t))) = .ok (.pushBytes s, t)) ∧
    (s.length < 256 → parseInsn (67 :: UInt8.ofNat s.length :: (s ++ t)) = .ok (.pushBytes s, t)) ∧
    (s.length < 2 ^ 63 → parseInsn (0x96 :: (natLE 8 s.length ++ (s ++ t))) = .ok (.pushBytearray s, t)) := by
  have c4 (h : s.length < 2 ^ 32) := readCounted_exact 4 s t (by omega) (by omega)
  have c1 := readCounted1_exact s t
  exact ⟨fun h => parseInsn_of parseArg_84 (Rd.map_ok _ (c4 h)), fun h => parseInsn_of parseArg_85 (Rd.map_ok _ (c1 h)),
    fun h => parseInsn_of parseArg_88 (Rd.map_ok _ (c4 h)), fun h => parseInsn_of parseArg_140 (Rd.map_ok _ (c1 h)),
    fun h => parseInsn_of parseArg_66 (Rd.map_ok _ (c4 h)), fun h => parseInsn_of parseArg_67 (Rd.map_ok _ (c1 h)),
    fun h => parseInsn_of parseArg_150 (Rd.map_ok _ (readCounted_exact 8 s t (by omega) (by omega)))⟩

/-- **C19 (helpers).** `AsString` accepts exactly unicode and py2-str results, `AsBytes` exactly
    bytes and py2-str results, and both return the payload unchanged, in both StrictUnicode modes. -/
theorem C19_helpers (s : Bytes) (su : Bool) (id : Nat) :
    ((pushedValue su id (.pushByteString s)).bind asString = some s) ∧
    ((pushedValue su id (.pushStr s)).bind asString = some s) ∧
    ((pushedValue su id (.pushBytes s)).bind asString = none) ∧
    ((pushedValue su id (.pushBytearray s)).bind asString = none) ∧
    ((pushedValue su id (.pushBytes s)).bind asBytes = some s) ∧
    ((pushedValue su id (.pushStr s)).bind asBytes = none) ∧
    ((pushedValue su id (.pushBytearray s)).bind asBytes = none) ∧
    ((pushedValue true id (.pushByteString s)).bind asBytes = some s) := by
  cases su <;> exact ⟨rfl, rfl, rfl, rfl, rfl, rfl, rfl, rfl⟩

/-- **C19 (Dict key).** In PyDict mode the int64 and the `*big.Int` representation of one
    integer are equal keys with equal hash, so they address the same entry. -/
theorem C19_key (n : Int) (id : Nat) (h : inInt64 n = true) :
    goEqual (.int n) (.big id n) = true ∧ goEqual (.big id n) (.int n) = true ∧
    hashTree (.int n) = hashTree (.big id n) := by
  refine ⟨?_, ?_, ?_⟩
  · simp [goEqual, strKind?, numOf?, numEq, eqIntBig, h]
  · simp [goEqual, strKind?, numOf?, numEq, eqIntBig, h]
  · simp [hashTree, hashBig, h]

end Ogorek
