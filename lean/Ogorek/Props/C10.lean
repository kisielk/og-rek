import Ogorek.Props.C04
import Ogorek.Lemmas.Loop

/-!
  C10 — Truncated input is always io.ErrUnexpectedEOF, exhausted input is io.EOF.
-/
namespace Ogorek

/-- **C10 (clean end).** No byte left before the first opcode: `io.EOF`. -/
theorem C10_empty_is_eof (mc : MCfg) (hook : Hook) (st : DState) :
    (decode mc hook st []).1 = .error .eof :=
  congrArg Prod.fst (decodeLoop_nil mc hook 0 0 _)

theorem decodeLoop_trunc (mc : MCfg) (hook : Hook) :
    ∀ (fuel insn : Nat) (st : DState) (inp : Bytes) (v : GoVal) (st' : DState),
      decodeLoop mc hook fuel insn st inp = (.ok v, st', []) →
      ∀ (k fuel' : Nat), k < inp.length → (insn ≠ 0 ∨ 0 < k) → k < fuel' →
        (decodeLoop mc hook fuel' insn st (inp.take k)).1 = .error .unexpectedEOF := by
  intro fuel
  induction fuel with
  | zero => intro insn st inp v st' h; simp [decodeLoop] at h
  | succ fuel ih =>
    intro insn st inp v st' h k fuel' hk hpos hfuel
    obtain ⟨fuel', rfl⟩ : ∃ f, fuel' = f + 1 := ⟨fuel' - 1, by omega⟩
    obtain ⟨key, r, i, rest, rfl, hp, hcase⟩ := decodeLoop_ok_inv h
    cases k with
    | zero =>
      -- cut at an opcode boundary after at least one instruction
      have : insn ≠ 0 := by omega
      simp [decodeLoop_nil, this]
    | succ k =>
      obtain ⟨u, hu, loc, tr⟩ := good_parseArg key r i rest hp
      have hlen : r.length = u.length + rest.length := by rw [hu, List.length_append]
      simp only [List.length_cons] at hk
      rw [List.take_succ_cons, hu, List.take_append]
      by_cases hku : k < u.length
      · -- the cut falls inside this instruction's argument
        have hne : u.drop k ≠ [] := fun hd => by have := congrArg List.length hd; simp at this; omega
        obtain ⟨e, he, hl⟩ := tr (u.take k) (u.drop k) (List.take_append_drop k u).symm hne
        rw [show k - u.length = 0 by omega, List.take_zero, List.append_nil, decodeLoop_parse_err he]
        rcases hl with rfl | rfl <;> rfl
      · -- the whole instruction is inside the prefix: same instruction, same effect
        rw [List.take_of_length_le (Nat.le_of_not_lt hku)]
        rcases hcase with ⟨_, _, rfl⟩ | ⟨hs, st1, he, hrest⟩
        · -- STOP consumed everything: no cut after it
          simp only [List.length_nil] at hlen; omega
        · rw [decodeLoop_step mc hook fuel' insn st st1 key _ _ i (loc _) hs he]
          exact ih _ _ _ _ _ hrest _ _ (by omega) (Or.inl (by omega)) (by omega)

/-- **C10 (truncation).** If the input is exactly one pickle that decodes successfully, every
    proper non-empty prefix of it yields `io.ErrUnexpectedEOF` (and, in the model as in the
    code, no value). -/
theorem C10_trunc (mc : MCfg) (hook : Hook) (st : DState) (inp : Bytes) (v : GoVal) (st' : DState)
    (h : decode mc hook st inp = (.ok v, st', [])) (k : Nat) (h0 : 0 < k) (hk : k < inp.length) :
    (decode mc hook st (inp.take k)).1 = .error .unexpectedEOF := by
  unfold decode at h ⊢
  refine decodeLoop_trunc mc hook _ _ _ _ _ _ h k _ hk (Or.inr h0) ?_
  simp [List.length_take]
  omega

end Ogorek
