import Ogorek.Lemmas.Step
import Ogorek.Encoder

/-!
  C18 — Persistent-reference hooks are called as documented and invert each other.

  Decoder: the log `calls` records every argument `PersistentLoad` was invoked with; PERSID / BINPERSID call it
  exactly once, with the Ref carrying the decoded id (a non-nil result replaces the Ref, nil keeps it, an error
  aborts `Decode`), and no other instruction does.  Encoder: a pointer to an application struct for which
  `PersistentRef` returns a Ref is encoded exactly as that Ref (`substRefs`).
-/
namespace Ogorek

def isPersid : Insn → Bool
  | .persid _ | .binpersid => true
  | _ => false

theorem listAppend_calls {st st' : DState} {l l' : GoVal} {items : List GoVal}
    (h : listAppend st l items = some (st', l')) : st'.calls = st.calls := by
  unfold listAppend at h
  repeat' split at h
  all_goals cases h
  all_goals rfl

theorem mkList_calls (mc : MCfg) (st : DState) (xs : List GoVal) : (mkList mc st xs).1.calls = st.calls := by
  unfold mkList; split <;> rfl

/-- **C18 (only persistent-reference opcodes call the hook).** Any other instruction leaves the
    log of `PersistentLoad` calls as it was. -/
theorem C18_other_insn_no_call (mc : MCfg) (hook : Hook) (i : Insn) (pos : Nat) (st st' : DState)
    (hi : isPersid i = false) (h : exec mc hook i pos st = .ok st') : st'.calls = st.calls := by
  cases exec_step h with
  | persid | binpersid => cases hi
  | append _ _ hla | appends _ hla => exact (listAppend_calls hla :)
  | list | emptyList => exact mkList_calls ..
  | _ => rfl

/-- What `handleRef` does with the hook's answer. -/
theorem C18_handleRef (load : Nat → GoVal → LoadResult) (st : DState) (r : GoVal) :
    handleRef (some load) st r =
      (match load st.calls.length r with
       | .replace v => .ok (push { st with calls := r :: st.calls } v)
       | .keep => .ok (push { st with calls := r :: st.calls } r)
       | .fail => .error .hook) := by
  simp only [handleRef, List.length_cons, Nat.add_sub_cancel]
  cases hl : load st.calls.length r <;> simp

theorem C18_handleRef_nohook (st : DState) (r : GoVal) : handleRef none st r = .ok (push st r) := by
  simp [handleRef]

/-- **C18 (PERSID).** One call, with `Ref{Pid: string(line)}`. -/
theorem C18_persid (mc : MCfg) (load : Nat → GoVal → LoadResult) (pos : Nat) (st : DState) (s : Bytes) :
    exec mc (some load) (.persid s) pos st = handleRef (some load) st (.ref (.str s)) := rfl

/-- **C18 (BINPERSID).** One call, with the Ref carrying the popped id (which is never the mark). -/
theorem C18_binpersid (mc : MCfg) (hook : Hook) (pos : Nat) (st : DState) (pid : GoVal) (s : List GoVal)
    (hs : st.stack = pid :: s) (hm : isMark pid = false) :
    exec mc hook .binpersid pos st = handleRef hook { st with stack := s } (.ref pid) := by
  dsimp only [exec]
  rw [popUser_cons hs hm]
  rfl

/-- In both cases the log grows by exactly that one Ref when the hook does not fail. -/
theorem C18_one_call (load : Nat → GoVal → LoadResult) (st st' : DState) (r : GoVal)
    (h : handleRef (some load) st r = .ok st') : st'.calls = r :: st.calls := by
  rw [C18_handleRef] at h
  split at h <;> simp [push] at h <;> subst h <;> rfl


/-- **C18 (PersistentRef, protocol 0).** A mapped application object is written as PERSID with its
    string id when that id is a single line; otherwise the documented error and nothing is written. -/
theorem C18_ref_p0 (ip : IsPrint) (su : Bool) (g : Nat → Option GoVal) (n : Nat) (pid : GoVal) (hg : g n = some pid) :
    enc ip ⟨0, su⟩ (substRefs g (.user n)) =
      (match pid with
       | .str s => if containsLF s then failWith .p0Persid else emit (80 :: s ++ [10])
       | _ => failWith .p0Persid) := by
  simp only [substRefs, hg, enc]
  cases pid <;> rfl

/-- **C18 (PersistentRef, protocols ≥ 1).** The id, then BINPERSID. -/
theorem C18_ref_bin (ip : IsPrint) (c : ECfg) (hp : c.proto ≠ 0) (g : Nat → Option GoVal) (n : Nat) (pid : GoVal)
    (hg : g n = some pid) :
    enc ip c (substRefs g (.user n)) = enc ip c pid +> emit [81] := by
  simp only [substRefs, hg, enc, hp, if_false]

/-- An object the hook does not map is encoded as the struct it is. -/
theorem C18_ref_unmapped (g : Nat → Option GoVal) (n : Nat) (hg : g n = none) :
    substRefs g (.user n) = .user n := by
  simp [substRefs, hg]

end Ogorek
