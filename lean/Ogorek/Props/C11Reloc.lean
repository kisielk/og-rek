import Ogorek.Lemmas.RelocStep
import Ogorek.Props.C11Enc

/-!
  # C11 — a pickle decodes the same wherever it stands in a stream

  Any pickle (any bytes, not only an encoder's) that decodes on a fresh Decoder and holds no MEMOIZE decodes on a Decoder
  that has already decoded other pickles — whatever heap, memo and id supply they left — consuming the same bytes and
  returning the same value up to the renaming `shiftV` of container references and `*big.Int` identities.  MEMOIZE is
  excluded because its key is "the next free index of the Decoder's memo", which earlier pickles advance: finding K7
  (`C11_K7_witness`).
-/
namespace Ogorek

/-- Does the instruction sequence of the pickle (read syntactically, up to its STOP) hold a MEMOIZE? -/
def hasMemoize : Nat → Bytes → Bool
  | 0, _ => false
  | fuel + 1, inp =>
    match readByte inp with
    | .error _ => false
    | .ok (key, r) =>
      match parseArg key r with
      | .error _ => false
      | .ok (.stop, _) => false
      | .ok (i, rest) => i.isMemoize || hasMemoize fuel rest

/-- Does the instruction sequence hold a memo fetch (GET / BINGET / LONG_BINGET)? -/
def hasGet : Nat → Bytes → Bool
  | 0, _ => false
  | fuel + 1, inp =>
    match readByte inp with
    | .error _ => false
    | .ok (key, r) =>
      match parseArg key r with
      | .error _ => false
      | .ok (.stop, _) => false
      | .ok (i, rest) => i.isGet || hasGet fuel rest

theorem hasMemoize_cons {fuel : Nat} {key : UInt8} {r rest : Bytes} {i : Insn} (hp : parseArg key r = .ok (i, rest))
    (hs : i.isStop = false) : hasMemoize (fuel + 1) (key :: r) = (i.isMemoize || hasMemoize fuel rest) := by
  rw [hasMemoize]
  simp only [readByte, hp]
  cases i <;> first | rfl | cases hs

theorem hasGet_cons {fuel : Nat} {key : UInt8} {r rest : Bytes} {i : Insn} (hp : parseArg key r = .ok (i, rest))
    (hs : i.isStop = false) : hasGet (fuel + 1) (key :: r) = (i.isGet || hasGet fuel rest) := by
  rw [hasGet]
  simp only [readByte, hp]
  cases i <;> first | rfl | cases hs

section
variable {dh db : Nat} {H0 : List HObj}

theorem reloc_loop (mc : MCfg) : ∀ (fuel insn : Nat) (A B : DState) (inp : Bytes) (v : GoVal) (A' : DState) (rest : Bytes),
    Reloc dh db H0 A B → hasMemoize fuel inp = false →
    decodeLoop mc none fuel insn A inp = (.ok v, A', rest) →
    ∃ B', decodeLoop mc none fuel insn B inp = (.ok (shiftV dh db v), B', rest) ∧ Reloc dh db H0 A' B' := by
  intro fuel
  induction fuel with
  | zero => intro insn A B inp v A' rest _ _ h; simp [decodeLoop] at h
  | succ fuel ih =>
    intro insn A B inp v A' rest hr hm h
    obtain ⟨key, r, i, rest', rfl, hp, ⟨rfl, hu, rfl⟩ | ⟨hs, A1, he, hrest⟩⟩ := decodeLoop_ok_inv h
    · obtain ⟨rfl, M', c, rfl⟩ := hr.eq_relocSt
      refine ⟨_, ?_, reloc_relocSt M' c A'⟩
      rw [decodeLoop_cons_stop hp, popUser_relocSt, hu]
      rfl
    · rw [hasMemoize_cons hp hs, Bool.or_eq_false_iff] at hm
      obtain ⟨B1, heB, hr1⟩ := reloc_step mc i (insn + 1) hr hm.1 he
      obtain ⟨B', hb, hrel⟩ := ih (insn + 1) A1 B1 rest' v A' rest hr1 hm.2 hrest
      exact ⟨B', by rw [decodeLoop_step mc none fuel insn B B1 key r rest' i hp hs heB]; exact hb, hrel⟩

theorem reloc_loop_err (mc : MCfg) (fuel insn : Nat) (A B : DState) (inp : Bytes) (e : DErr) (A' : DState) (rest : Bytes) :
    Reloc dh db H0 A B → hasMemoize fuel inp = false → hasGet fuel inp = false →
    decodeLoop mc none fuel insn A inp = (.error e, A', rest) →
    ∃ B', decodeLoop mc none fuel insn B inp = (.error e, B', rest) := by
  -- every way the first iteration fails leaves the state alone: only error and rest are compared
  have fin : ∀ {x : M GoVal} {A B : DState} {r' : Bytes}, (x, A, r') = ((.error e : M GoVal), A', rest) →
      ∃ B', (x, B, r') = ((.error e : M GoVal), B', rest) := fun h => by cases h; exact ⟨_, rfl⟩
  refine decodeLoop_induct (P := fun fuel insn A inp res => ∀ B, Reloc dh db H0 A B → hasMemoize fuel inp = false →
    hasGet fuel inp = false → res = (.error e, A', rest) → ∃ B', decodeLoop mc none fuel insn B inp = (.error e, B', rest))
    ?_ ?_ ?_ ?_ ?_ ?_ ?_ fuel insn A inp B
  · exact fun _ _ _ _ h => fin h
  · exact fun _ _ _ _ h => fin h
  · intro _ _ _ _ _ _ hp _ _ _ _ h
    rw [decodeLoop_parse_err hp]
    exact fin h
  · exact fun _ _ _ _ _ _ h => nomatch h
  · intro _ _ A _ _ _ _ hp hu _ hr _ _ h
    obtain ⟨rfl, M', c, rfl⟩ := hr.eq_relocSt
    rw [decodeLoop_cons_stop hp, popUser_relocSt, hu]
    exact fin h
  · intro _ _ _ _ _ _ _ _ hp hs he _ hr _ hgt h
    rw [hasGet_cons hp hs, Bool.or_eq_false_iff] at hgt
    rw [decodeLoop_cons hp, hs, reloc_step_err mc _ _ hr hgt.1 he]
    exact fin h
  · intro _ _ _ _ _ _ _ _ hp hs he ih _ hr hm hgt h
    rw [hasMemoize_cons hp hs, Bool.or_eq_false_iff] at hm
    rw [hasGet_cons hp hs, Bool.or_eq_false_iff] at hgt
    obtain ⟨B1, heB, hr1⟩ := reloc_step mc _ _ hr hm.1 he
    rw [decodeLoop_step mc none _ _ _ B1 _ _ _ _ hp hs heB]
    exact ih B1 hr1 hm.2 hgt.2 h
end

/-- A Decoder's supply of `*big.Int` identities starts at 1 and only grows, hence `1 ≤ st.nbig` and the offset `st.nbig - 1`. -/
theorem reloc_start (st : DState) (hn : 1 ≤ st.nbig) :
    Reloc st.heap.length (st.nbig - 1) st.heap { ({} : DState) with stack := [], proto := 0 } { st with stack := [], proto := 0 } :=
  ⟨rfl, rfl, ⟨st.memo, rfl⟩, (List.append_nil _).symm, rfl, show st.nbig = 1 + (st.nbig - 1) by omega⟩

/-- **C11 (the error, too).** A pickle that uses neither MEMOIZE nor a memo fetch and FAILS on a fresh Decoder fails with the same
    error, after the same bytes, on a Decoder in any state. -/
theorem C11_relocate_err (mc : MCfg) (st : DState) (hn : 1 ≤ st.nbig) (p : Bytes) (e : DErr) (stA : DState) (rest : Bytes)
    (hm : hasMemoize (p.length + 1) p = false) (hg : hasGet (p.length + 1) p = false)
    (h : decode mc none {} p = (.error e, stA, rest)) :
    ∃ stB, decode mc none st p = (.error e, stB, rest) := by
  exact reloc_loop_err (dh := st.heap.length) (db := st.nbig - 1) (H0 := st.heap) mc (p.length + 1) 0 _ _ p e stA rest
    (reloc_start st hn) hm hg h

/-- **C11 (a pickle decodes the same wherever it stands).**  A pickle without MEMOIZE that `Decode` accepts on a fresh
    Decoder is accepted on a Decoder in any state `st` (no `PersistentLoad` hook), up to the same byte, and the value and
    the containers it builds are those of the fresh run moved past what `st` already holds (`shiftV`, `Reloc`). -/
theorem C11_relocate (mc : MCfg) (st : DState) (hn : 1 ≤ st.nbig) (p : Bytes) (v : GoVal) (stA : DState) (rest : Bytes)
    (hm : hasMemoize (p.length + 1) p = false)
    (h : decode mc none {} p = (.ok v, stA, rest)) :
    ∃ stB, decode mc none st p = (.ok (shiftV st.heap.length (st.nbig - 1) v), stB, rest) ∧
      Reloc st.heap.length (st.nbig - 1) st.heap stA stB := by
  exact reloc_loop mc (p.length + 1) 0 _ _ p v stA rest (reloc_start st hn) hm h

/-- What the moved run returns unfolds to the moved unfolding — for a finite (acyclic) result, which holds no container
    reference any more, the very same value up to `*big.Int` identities. -/
theorem resolveV_reloc (dh db : Nat) (H0 HA : List HObj) (hdh : dh = H0.length) :
    ∀ (f : Nat) (v : GoVal), resolveV (H0 ++ HA.map (shiftO dh db)) f (shiftV dh db v) = shiftV dh db (resolveV HA f v)
  | 0, _ => by simp [resolveV, shiftV]
  | f + 1, v => by
    have ihl : ∀ xs : List GoVal,
        (shiftL dh db xs).map (resolveV (H0 ++ HA.map (shiftO dh db)) f) = shiftL dh db (xs.map (resolveV HA f)) := by
      intro xs
      induction xs with
      | nil => rfl
      | cons x xs ih => simp only [shiftL, List.map_cons, ih, resolveV_reloc dh db H0 HA hdh f x]
    have ihp : ∀ es : List (GoVal × GoVal),
        (shiftP dh db es).map (fun kv =>
          (resolveV (H0 ++ HA.map (shiftO dh db)) f kv.1, resolveV (H0 ++ HA.map (shiftO dh db)) f kv.2)) =
        shiftP dh db (es.map fun kv => (resolveV HA f kv.1, resolveV HA f kv.2)) := by
      intro es
      induction es with
      | nil => rfl
      | cons e es ih =>
        obtain ⟨a, b⟩ := e
        simp only [shiftP, List.map_cons, ih, resolveV_reloc dh db H0 HA hdh f a, resolveV_reloc dh db H0 HA hdh f b]
    cases v with
    | list xs => simp only [shiftV, resolveV, ihl]
    | tuple xs => simp only [shiftV, resolveV, ihl]
    | call m n xs => simp only [shiftV, resolveV, ihl]
    | ref q => simp only [shiftV, resolveV, resolveV_reloc dh db H0 HA hdh f q]
    | href id =>
      simp only [shiftV, resolveV]
      rw [hdh, List.getElem?_append_right (by omega)]
      simp only [Nat.add_sub_cancel, List.getElem?_map]
      cases hg : HA[id]? with
      | none => simp [shiftV]
      | some o =>
        simp only [Option.map_some, shiftO]
        cases o.kind <;> simp only [shiftV, ← hdh, ihl, ihp]
    | _ => simp [shiftV, resolveV]

/-- **C11 (stream of arbitrary MEMOIZE-free pickles).** If `p` decodes alone (on a fresh Decoder, consuming all of it), then on a
    Decoder in any state the stream `p ++ rest` yields first the same value (moved), and the following calls see exactly
    `rest`. -/
theorem C11_stream_any (mc : MCfg) (n : Nat) (st : DState) (hn : 1 ≤ st.nbig) (p rest : Bytes) (v : GoVal) (stA : DState)
    (hm : hasMemoize (p.length + 1) p = false)
    (h : decode mc none {} p = (.ok v, stA, [])) :
    ∃ stB, decodeStream mc none (n + 1) st (p ++ rest) =
        .ok (shiftV st.heap.length (st.nbig - 1) v) :: decodeStream mc none n stB rest ∧
      Reloc st.heap.length (st.nbig - 1) st.heap stA stB := by
  obtain ⟨stB, hb, hrel⟩ := C11_relocate mc st hn p v stA [] hm h
  exact ⟨stB, C11_stream mc none n st p rest _ stB hb, hrel⟩

/-- `"a"` memoized: SHORT_BINUNICODE, MEMOIZE, STOP. -/
def k7First : Bytes := [0x8c, 1, 97, 0x94, 46]
/-- `"b"` memoized, dropped, fetched again by index 0: SHORT_BINUNICODE, MEMOIZE, POP, BINGET 0, STOP.
    Alone this is `"b"` — what `pickle.loads` returns, and the pattern every protocol-4 pickler relies on. -/
def k7Second : Bytes := [0x8c, 1, 98, 0x94, 48, 104, 0, 46]

/-- **K7 witness.** With MEMOIZE the hypothesis of `C11_relocate` fails and so does its conclusion: the second pickle is `"b"`
    alone, but after the first pickle the same bytes return `"a"` — MEMOIZE stored `"b"` under index 1, BINGET 0 found the first
    pickle's entry. -/
theorem C11_K7_witness (c : Cfg) :
    (decode (goCfg c) none {} k7Second).1 = .ok (.str [98]) ∧
    decodeStream (goCfg c) none 2 {} (k7First ++ k7Second) = [.ok (.str [97]), .ok (.str [97])] ∧
    hasMemoize (k7Second.length + 1) k7Second = true := by
  refine ⟨?_, ?_, ?_⟩
  · simp [k7Second, decode, decodeLoop, readByte, parseArg_140, parseArg_148, parseArg_48, parseArg_104, parseArg_46,
      readCounted1, copyN, Rd.map, Rd.bind, Rd.pure, exec, goCfg, push, memoPut, memoGet, memoKey, natDigits_small,
      userOK, popUser, pop, bind, Except.bind, pure, Except.pure, List.lookup]
  · simp [k7First, k7Second, decodeStream, decode, decodeLoop, readByte, parseArg_140, parseArg_148, parseArg_48, parseArg_104, parseArg_46,
      readCounted1, copyN, Rd.map, Rd.bind, Rd.pure, exec, goCfg, push, memoPut, memoGet, memoKey, natDigits_small,
      userOK, popUser, pop, bind, Except.bind, pure, Except.pure, List.lookup]
  · simp [k7Second, hasMemoize, readByte, parseArg_140, parseArg_148, readCounted1, copyN, Rd.map, Rd.bind, Rd.pure, Insn.isMemoize]

/-- Non-vacuity: a pickle building a list, a dict and a tuple of them decodes alone and holds no MEMOIZE, so `C11_relocate`
    applies to it (`](K\x01e}\x86.`). -/
example : hasMemoize 9 [93, 40, 75, 1, 101, 125, 0x86, 46] = false ∧
    (decode (goCfg ⟨true, false⟩) none {} [93, 40, 75, 1, 101, 125, 0x86, 46]).1.toOption.isSome = true := by
  constructor
  · simp [hasMemoize, readByte, parseArg_93, parseArg_40, parseArg_75, parseArg_101, parseArg_125, parseArg_134, parseArg_46,
      Rd.map, Rd.bind, Rd.pure, Insn.isMemoize]
  · simp [decode, decodeLoop, readByte, parseArg_93, parseArg_40, parseArg_75, parseArg_101, parseArg_125, parseArg_134, parseArg_46,
      Rd.map, Rd.bind, Rd.pure, exec, goCfg, mkList, allocObj, push, splitAtMark, isMark, listAppend, userOK, userOKAll, popUser, pop,
      bind, Except.bind, pure, Except.pure, Except.toOption, dictKind]

end Ogorek
