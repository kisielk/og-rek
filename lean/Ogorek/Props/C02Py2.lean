import Ogorek.Props.C19U
import Ogorek.Props.C02Pk
import Ogorek.Props.C06Dec
import Ogorek.Lemmas.Py2RueInv

/-!
  C02 — what Python 2's picklers write, at the three protocols Python 2 has, for a `str` (STRING line with `repr` at protocol 0,
  SHORT_BINSTRING / BINSTRING above), a `bytearray` (`bytearray(<text>, 'latin-1')` through the global and REDUCE) and a `unicode`
  (UNICODE line in Python 2's raw-unicode-escape `py2Rue`, or BINUNICODE), each object with the memo PUT that `pickle.py` writes
  and `cPickle` writes or omits: Decode returns the object, for every content and from any decoder state.
-/
namespace Ogorek

def py2StrBody (p : Nat) (s : Bytes) : Bytes :=
  if p = 0 then 83 :: (py2repr s ++ [10])
  else if s.length < 256 then 85 :: UInt8.ofNat s.length :: s
  else 84 :: (natLE 4 s.length ++ s)

/-- The pickle of a Python-2 str: `put` is the memo index the pickler writes, if it writes one. -/
def py2StrPickle (p : Nat) (put : Option Nat) (s : Bytes) : Bytes :=
  (if p ≥ 2 then [0x80, UInt8.ofNat p] else []) ++
    (py2StrBody p s ++ (match put with | some n => cpPut p n | none => [])) ++ [46]

theorem parses_py2StrBody (p : Nat) (s : Bytes) (hlen : s.length < 2 ^ 32) : Parses (py2StrBody p s) [.pushByteString s] := by
  apply Parses.single rfl
  intro t
  unfold py2StrBody
  by_cases h0 : p = 0
  · simp only [h0, if_true]
    have e : (83 :: (py2repr s ++ [10])) ++ t = 83 :: (py2repr s ++ 10 :: t) := by simp
    rw [e]
    exact C19_STRING_py2repr s t
  · simp only [h0, if_false]
    by_cases hs : s.length < 256
    · simp only [hs, if_true]
      have := (C19_counted s t).2.1 hs
      simpa using this
    · simp only [hs, if_false]
      have := (C19_counted s t).1 hlen
      simpa using this

/-- **C19 (UNICODE as Python 2's picklers write it).**  The UNICODE line holding `py2Rue s`, Python 2's
    raw-unicode-escape of the text `s` (there is none unless `s` is valid UTF-8), is read as the instruction that
    pushes `s`: og-rek's decoding inverts Python 2's encoding, which writes no line feed. -/
theorem C19_UNICODE_py2 (s u t : Bytes) (h : py2Rue s = some u) :
    parseInsn (86 :: (u ++ 10 :: t)) = .ok (.pushStr s, t) :=
  parseInsn_of parseArg_86 (Rd.mapE_ok (readLine_line _ _ (py2Rue_no_lf s u h)) (by rw [parseUnicodeArg, py2Rue_inv s u h]))


def dropPush (k : Nat) (v : GoVal) (s : List GoVal) : List GoVal := v :: s.drop k

def optPut (p : Nat) : Option Nat → Bytes
  | some n => cpPut p n
  | none => []

section steps
variable {mc : MCfg} {hook : Hook} {c : ECfg}

/-- The pickles here are straight-line: their runs are put together from steps whose effect is a function of the stack alone. -/
theorem RunsP.seqStack {b1 b2 : Bytes} {P1 P2 : DState → Prop} {f g : List GoVal → List GoVal}
    (h1 : RunsP mc hook c b1 P1 (fun st st' => st'.stack = f st.stack))
    (h2 : RunsP mc hook c b2 P2 (fun st st' => st'.stack = g st.stack))
    (hmid : ∀ st st1, P1 st → st1.stack = f st.stack → P2 st1) :
    RunsP mc hook c (b1 ++ b2) P1 (fun st st' => st'.stack = g (f st.stack)) := by
  refine RunsP.weaken (RunsP.seq h1 h2 (fun st st1 hp _ q => hmid st st1 hp q)) (fun _ h => h) ?_
  intro st st2 _ _ ⟨st1, _, q1, q2⟩
  rw [q2, q1]

theorem runsPush (bs : Bytes) (i : Insn) (v : GoVal) (hp : Parses bs [i])
    (he : ∀ pos st, exec mc hook i pos st = .ok (push st v)) :
    RunsP mc hook c bs (fun _ => True) (fun st st' => st'.stack = dropPush 0 v st.stack) :=
  RunsP.one hp fun pos st _ _ => ⟨push st v, he pos st, rfl, rfl⟩

theorem runsOptPut (p : Nat) (o : Option Nat) :
    RunsP mc hook (ecfg p) (optPut p o) TopUser (fun st st' => st'.stack = id st.stack) := by
  cases o with
  | none => exact RunsP.nil fun _ _ => rfl
  | some n => exact RunsP.weaken (runs_put p n) (fun _ h => h) (fun _ _ _ _ q => q.1)

/-- The two-element tuple as the picklers close it: TUPLE2, or MARK … TUPLE below protocol 2. -/
theorem runsTuple2 (p : Nat) {items : Bytes} (a b : GoVal) (ha : isMark a = false) (hb : isMark b = false)
    (hi : RunsP mc hook c items (fun _ => True) (fun st st' => st'.stack = b :: a :: st.stack)) :
    RunsP mc hook c ((if p ≥ 2 then [] else [40]) ++ items ++ [if p ≥ 2 then 0x86 else 116]) (fun _ => True)
      (fun st st' => st'.stack = dropPush 0 (.tuple [a, b]) st.stack) := by
  by_cases h2 : p ≥ 2
  · simp only [h2, if_true, List.nil_append]
    refine RunsP.snoc hi (parses_op 0x86 (.tupleN 2) rfl parseArg_134) ?_
    intro pos st st' _ _ _ hs
    refine ⟨{ st' with stack := .tuple [a, b] :: st.stack }, ?_, rfl, rfl⟩
    have hl : ¬ (st.stack.length + 1 + 1 < 2) := by omega
    simp [exec, hs, userOKAll, userOK_of_not_mark ha, userOK_of_not_mark hb, hl, bind, Except.bind, pure, Except.pure]
  · simp only [h2, if_false]
    refine RunsP.snoc (RunsP.mark_then hi) (parses_op 116 .tuple rfl parseArg_116) ?_
    intro pos st st' _ _ _ hs
    refine ⟨{ st' with stack := .tuple [a, b] :: st.stack }, ?_, rfl, rfl⟩
    have h3 : splitAtMark (b :: a :: GoVal.mark :: st.stack) = some ([b, a], st.stack) :=
      splitAtMark_append [b, a] st.stack (by simp [ha, hb])
    simp [exec, hs, push, h3]

end steps

theorem decode_push_put {mc : MCfg} (hook : Hook) (p : Nat) (hp : p ≤ 2) (put : Option Nat) {tb : Bytes} {v : GoVal}
    (hv : isMark v = false)
    (h : RunsP mc hook (ecfg p) tb (fun _ => True) (fun st st' => st'.stack = dropPush 0 v st.stack)) (st0 : DState) :
    ∃ st', decode mc hook st0 ((if p ≥ 2 then [0x80, UInt8.ofNat p] else []) ++ (tb ++ optPut p put) ++ [46]) =
      (.ok v, st', []) := by
  have hboth := RunsP.seqStack h (runsOptPut (hook := hook) p put) (fun st st1 _ e => ⟨v, st.stack, e, hv⟩)
  obtain ⟨st2, hq, hdec⟩ := decode_runsP mc hook p (by omega) [] (Or.inl rfl) hboth st0 trivial
  exact ⟨_, by simpa using hdec v hq hv⟩

/-- **C02 (Python 2's str).**  For every content `s` below 4 GiB, each protocol 0-2, with or without the memo PUT and
    whatever its index, from any decoder state: Decode consumes the whole pickle and returns the byte string, a
    `ByteString` with StrictUnicode and a Go string without. -/
theorem C02_py2_str (cfg : Cfg) (hook : Hook) (p : Nat) (hp : p ≤ 2) (put : Option Nat) (s : Bytes) (hlen : s.length < 2 ^ 32)
    (st0 : DState) :
    ∃ st', decode (goCfg cfg) hook st0 (py2StrPickle p put s) =
      (.ok (if cfg.su then .bytestr s else .str s), st', []) := by
  have hstr : RunsP (goCfg cfg) hook (ecfg p) (py2StrBody p s) (fun _ => True)
      (fun st st' => st'.stack = dropPush 0 (if cfg.su then .bytestr s else .str s) st.stack) :=
    runsPush _ _ _ (parses_py2StrBody p s hlen) (fun pos st => exec_pushByteString _ hook pos st s)
  obtain ⟨st', h⟩ := decode_push_put hook p hp put (by split <;> rfl) hstr st0
  refine ⟨st', ?_⟩
  cases put <;> exact h

/-- What `pickle.dumps('a\'b\xff', 0)` of Python 2.7 writes, byte for byte, is an instance. -/
example : py2StrPickle 0 (some 0) [97, 39, 98, 0xff] = sb "S\"a'b\\xff\"\np0\n." := by decide +kernel


/-- The memo PUTs of the five objects the pickler saves (the global, the text, `'latin-1'`, the argument tuple, the result): `pickle.py`
    writes all five (indices 0-4), `cPickle` the first and the last (indices 1, 2) — any choice is covered. -/
structure Py2Puts where
  g : Option Nat
  t : Option Nat
  l : Option Nat
  a : Option Nat
  r : Option Nat

/-- The pickle of `bytearray(d)` as Python 2 (and Python 3 before 3.8) writes it, `bytearray(<text>, 'latin-1')`, without PROTO and
    STOP; `tb` is the UNICODE / BINUNICODE instruction carrying the content as text. -/
def py2BytearrayBodyG (p : Nat) (pu : Py2Puts) (tb : Bytes) : Bytes :=
  ((99 :: sb "__builtin__" ++ [10] ++ sb "bytearray" ++ [10]) ++ optPut p pu.g) ++
  ((if p ≥ 2 then [] else [40]) ++
   (tb ++ optPut p pu.t) ++
   (py2StrBody p (sb "latin-1") ++ optPut p pu.l) ++
   ([if p ≥ 2 then 0x86 else 116] ++ optPut p pu.a)) ++
  ([82] ++ optPut p pu.r)

def py2BytearrayPickleG (p : Nat) (pu : Py2Puts) (tb : Bytes) : Bytes :=
  (if p ≥ 2 then [0x80, UInt8.ofNat p] else []) ++ py2BytearrayBodyG p pu tb ++ [46]

/-- Protocols 1 and 2: the text travels as BINUNICODE. -/
def py2BytearrayPickle (p : Nat) (pu : Py2Puts) (d : Bytes) : Bytes :=
  py2BytearrayPickleG p pu (88 :: (natLE 4 (latin1ToUtf8 d).length ++ latin1ToUtf8 d))

/-- Protocol 0: the text travels as a UNICODE line in Python 2's raw-unicode-escape (`none` where `py2Rue` has no answer: text
    that is not valid UTF-8). -/
def py2BytearrayPickle0 (pu : Py2Puts) (d : Bytes) : Option Bytes :=
  (py2Rue (latin1ToUtf8 d)).map fun u => py2BytearrayPickleG 0 pu (86 :: (u ++ [10]))

theorem py2_bytearray_core (cfg : Cfg) (hook : Hook) (p : Nat) (hp2 : p ≤ 2) (pu : Py2Puts) (d tb : Bytes)
    (htext : RunsP (goCfg cfg) hook (ecfg p) tb (fun _ => True)
      (fun st st' => st'.stack = dropPush 0 (GoVal.str (latin1ToUtf8 d)) st.stack)) (st0 : DState) :
    ∃ st', decode (goCfg cfg) hook st0 (py2BytearrayPickleG p pu tb) = (.ok (.bytearray d), st', []) := by
  let L : GoVal := if cfg.su then .bytestr (sb "latin-1") else .str (sb "latin-1")
  have hLm : isMark L = false := by simp only [L]; cases cfg.su <;> rfl
  let T : GoVal := .str (latin1ToUtf8 d)
  let G : GoVal := .cls (sb "__builtin__") (sb "bytearray")
  have put : ∀ (o : Option Nat), _ := runsOptPut (mc := goCfg cfg) (hook := hook) p
  have hG : Parses (99 :: sb "__builtin__" ++ [10] ++ sb "bytearray" ++ [10]) [.global (sb "__builtin__") (sb "bytearray")] :=
    parses_global _ _ (nameOK_globals 2).1.1 (nameOK_globals 2).2.2.1.1
  have hg := RunsP.seqStack (runsPush _ _ G hG (fun _ _ => rfl)) (put pu.g) (fun st _ _ e => ⟨G, st.stack, e, rfl⟩)
  have ht := RunsP.seqStack htext (put pu.t) (fun st _ _ e => ⟨T, st.stack, e, rfl⟩)
  have hL : Parses (py2StrBody p (sb "latin-1")) [.pushByteString (sb "latin-1")] := parses_py2StrBody p _ (by decide)
  have hl := RunsP.seqStack (runsPush _ _ L hL (fun pos st => exec_pushByteString _ hook pos st _))
    (put pu.l) (fun st _ _ e => ⟨L, st.stack, e, hLm⟩)
  have htup := RunsP.seqStack (runsTuple2 p T L rfl hLm (RunsP.seqStack ht hl (fun _ _ _ _ => trivial))) (put pu.a)
    (fun st _ _ e => ⟨.tuple [T, L], st.stack, e, rfl⟩)
  have hargs := RunsP.seqStack hg htup (fun _ _ _ _ => trivial)
  have hred : RunsP (goCfg cfg) hook (ecfg p) [82] (fun st => ∃ rest, st.stack = .tuple [T, L] :: G :: rest)
      (fun st st' => st'.stack = dropPush 2 (.bytearray d) st.stack) := by
    refine RunsP.one (parses_op 82 .reduce rfl parseArg_82) ?_
    intro pos st hpo' ⟨rest, hs⟩
    have hmod : pybuiltinModule st.proto = sb "__builtin__" := by
      rw [protoOK_mod hpo']; unfold pybuiltinModuleE
      have : ((p : Int) ≤ 2) := by omega
      simp [this]
    have hLeq : stringEQ L "latin-1" = true := by simp only [L]; cases cfg.su <;> exact beq_self_eq_true _
    have hne := builtin_ne_codecs.1
    have hcall : handleCall st.proto (sb "__builtin__") (sb "bytearray") [T, L] = some (.ok (.bytearray d)) := by
      simp [handleCall, hmod, hne, bytearray_ne_bytes, hLeq, T, decodeLatin1Bytes_latin1]
    have hexec : exec (goCfg cfg) hook .reduce pos st = .ok { st with stack := .bytearray d :: rest } := by
      rw [exec_reduce hs, hcall]
      rfl
    exact ⟨_, hexec, rfl, by simp [hs, dropPush]⟩
  have hall := RunsP.seqStack (f := fun s => GoVal.tuple [T, L] :: G :: s) hargs hred (fun st _ _ e => ⟨st.stack, e⟩)
  obtain ⟨st', h⟩ := decode_push_put hook p hp2 pu.r rfl hall st0
  refine ⟨st', ?_⟩
  have e : ∀ a m t l o pa r pr : Bytes,
      a ++ (m ++ t ++ l ++ (o ++ pa)) ++ (r ++ pr) = a ++ (m ++ (t ++ l) ++ o ++ pa) ++ r ++ pr := by
    intros; simp only [List.append_assoc]
  unfold py2BytearrayPickleG py2BytearrayBodyG
  rw [e]
  exact h

/-- **C02 (Python 2's bytearray, protocols 1 and 2).**  For every content `d` (its text below 4 GiB), whichever of the five memo PUTs
    are written and with whatever indices, and both StrictUnicode settings (the encoding name `'latin-1'` is a Python-2 str: a
    `ByteString` or a Go string), from any decoder state: Decode returns the `[]byte` with that content. -/
theorem C02_py2_bytearray (cfg : Cfg) (hook : Hook) (p : Nat) (_hp1 : 1 ≤ p) (hp2 : p ≤ 2) (pu : Py2Puts) (d : Bytes)
    (hlen : (latin1ToUtf8 d).length < 2 ^ 32) (st0 : DState) :
    ∃ st', decode (goCfg cfg) hook st0 (py2BytearrayPickle p pu d) = (.ok (.bytearray d), st', []) := by
  refine py2_bytearray_core cfg hook p hp2 pu d _ ?_ st0
  refine runsPush _ (.pushStr (latin1ToUtf8 d)) _ (Parses.single rfl fun t => ?_) (fun _ _ => rfl)
  have := (C19_counted (latin1ToUtf8 d) t).2.2.1 hlen
  simpa using this

/-- **C02 (Python 2's bytearray, protocol 0).**  The content travels as a UNICODE line in Python 2's own raw-unicode-escape. -/
theorem C02_py2_bytearray_p0 (cfg : Cfg) (hook : Hook) (pu : Py2Puts) (d bs : Bytes)
    (h : py2BytearrayPickle0 pu d = some bs) (st0 : DState) :
    ∃ st', decode (goCfg cfg) hook st0 bs = (.ok (.bytearray d), st', []) := by
  unfold py2BytearrayPickle0 at h
  cases hu : py2Rue (latin1ToUtf8 d) with
  | none => simp [hu] at h
  | some u =>
    simp only [hu, Option.map_some, Option.some.injEq] at h
    subst h
    refine py2_bytearray_core cfg hook 0 (by omega) pu d _ ?_ st0
    refine runsPush _ (.pushStr (latin1ToUtf8 d)) _ (Parses.single rfl fun t => ?_) (fun _ _ => rfl)
    have := C19_UNICODE_py2 (latin1ToUtf8 d) u t hu
    simpa using this

/-- The pickle of a Python-2 unicode object; `none` at protocol 0 for text that is not valid UTF-8. -/
def py2UnicodePickle (p : Nat) (put : Option Nat) (s : Bytes) : Option Bytes :=
  (if p = 0 then (py2Rue s).map fun u => 86 :: (u ++ [10]) else some (88 :: (natLE 4 s.length ++ s))).map fun tb =>
    (if p ≥ 2 then [0x80, UInt8.ofNat p] else []) ++ (tb ++ optPut p put) ++ [46]

theorem parses_py2Unicode (p : Nat) (s tb : Bytes) (hlen : s.length < 2 ^ 32)
    (htb : (if p = 0 then (py2Rue s).map fun u => 86 :: (u ++ [10]) else some (88 :: (natLE 4 s.length ++ s))) = some tb) :
    Parses tb [.pushStr s] := by
  refine Parses.single rfl fun t => ?_
  by_cases h0 : p = 0
  · simp only [h0, if_true] at htb
    obtain ⟨u, hr, rfl⟩ := Option.map_eq_some_iff.mp htb
    simpa using C19_UNICODE_py2 s u t hr
  · simp only [h0, if_false, Option.some.injEq] at htb
    subst htb
    simpa using (C19_counted s t).2.2.1 hlen

/-- **C02 (Python 2's unicode).**  Decode returns the text, from any decoder state. -/
theorem C02_py2_unicode (cfg : Cfg) (hook : Hook) (p : Nat) (hp : p ≤ 2) (put : Option Nat) (s bs : Bytes) (hlen : s.length < 2 ^ 32)
    (h : py2UnicodePickle p put s = some bs) (st0 : DState) :
    ∃ st', decode (goCfg cfg) hook st0 bs = (.ok (.str s), st', []) := by
  obtain ⟨tb, htb, rfl⟩ := Option.map_eq_some_iff.mp h
  exact decode_push_put hook p hp put rfl (runsPush _ (.pushStr s) _ (parses_py2Unicode p s tb hlen htb) (fun _ _ => rfl)) st0

/-- `pickle.dumps(bytearray(b'h\xe9llo'), 2)` of Python 2.7's pickle.py, byte for byte, is an instance. -/
example : py2BytearrayPickle 2 ⟨some 0, some 1, some 2, some 3, some 4⟩ [104, 0xe9, 108, 108, 111] =
    [0x80, 2] ++ sb "c__builtin__\nbytearray\nq" ++ [0] ++ [88, 6, 0, 0, 0, 104, 0xc3, 0xa9, 108, 108, 111, 113, 1, 85, 7] ++ sb "latin-1" ++
      [113, 2, 0x86, 113, 3, 82, 113, 4, 46] := by
  decide +kernel

end Ogorek
