import Ogorek.Reflect
import Ogorek.Lemmas.EncClosed

/-!
  C15 — Encode never panics: unsupported Go types yield an error.
-/
namespace Ogorek

def NoPanicOut (o : Out) : Prop := ∀ w, o.err ≠ some (.panic w)

theorem NoPanicOut.seq {a b : Out} (ha : NoPanicOut a) (hb : NoPanicOut b) : NoPanicOut (a +> b) := by
  unfold Out.seq; split <;> assumption
theorem NoPanicOut.emit (bs : Bytes) : NoPanicOut (emit bs) := fun _ => nofun
theorem NoPanicOut.nil : NoPanicOut Out.nil := fun _ => nofun
theorem NoPanicOut.fail {e : EncErr} (h : ∀ w, e ≠ .panic w) : NoPanicOut (failWith e) :=
  fun w he => h w (Option.some.inj he)
theorem NoPanicOut.closed : EncClosed NoPanicOut := ⟨.seq, .emit, .fail nofun, .fail nofun⟩

mutual
theorem enc_no_panic (ip : IsPrint) (c : ECfg) : ∀ v : GoVal, NoPanicOut (enc ip c v)
  | .nil | .none => .emit _
  | .bool b => NoPanicOut.closed.bool _ _
  | .int i => NoPanicOut.closed.int _ _
  | .uint u => NoPanicOut.closed.uint _ _
  | .big _ i => .emit _
  | .float f => NoPanicOut.closed.float _ _
  | .complex _ _ | .href _ | .cycle => .fail nofun
  | .str s => NoPanicOut.closed.string _ _ _
  | .bytestr s => NoPanicOut.closed.byteString _ _ _
  | .bytes s => NoPanicOut.closed.bytes _ _ _
  | .bytearray s => NoPanicOut.closed.byteArray _ _ _
  | .cls m n => NoPanicOut.closed.cls _ _ _ _
  | .user n => .seq (.seq (.seq (.emit _) (NoPanicOut.closed.string _ _ _)) (NoPanicOut.closed.int _ _)) (.emit _)
  | .mark => .seq (.emit _) (.emit _)
  | .list xs => ite_out (.emit _) (.seq (.seq (.emit _) (encList_no_panic ip c xs)) (.emit _))
  | .tuple xs => NoPanicOut.closed.tupleOf _ _ (encList_no_panic ip c xs)
  | .call m n args => .seq (.seq (NoPanicOut.closed.cls _ _ _ _) (NoPanicOut.closed.tupleOf _ _ (encList_no_panic ip c args))) (.emit _)
  | .ref p => by
    refine ite_out ?_ (.seq (enc_no_panic ip c p) (.emit _))
    split
    · exact ite_out (.fail nofun) (.emit _)
    · exact .fail nofun
  | .map kvs | .dict kvs => ite_out (.emit _) (.seq (.seq (.emit _) (encPairs_no_panic ip c kvs)) (.emit _))
theorem encList_no_panic (ip : IsPrint) (c : ECfg) : ∀ xs : List GoVal, NoPanicOut (encList ip c xs)
  | [] => .nil
  | x :: xs => .seq (enc_no_panic ip c x) (encList_no_panic ip c xs)
theorem encPairs_no_panic (ip : IsPrint) (c : ECfg) : ∀ kvs : List (GoVal × GoVal), NoPanicOut (encPairs ip c kvs)
  | [] => .nil
  | (k, v) :: r => .seq (.seq (enc_no_panic ip c k) (enc_no_panic ip c v)) (encPairs_no_panic ip c r)
end

mutual
/-- Well-formed reflect values: the placeholder for unexported content occurs only as the
    content of unexported fields (reflect gives no other way to reach it from an `any`). -/
def rwf : RVal → Bool
  | .zero => false
  | .seq xs => rwfList xs
  | .tuple xs => rwfList xs
  | .map kvs => rwfPairs kvs
  | .ptr v => rwf v
  | .strct fs => rwfFields fs
  | _ => true
def rwfList : List RVal → Bool
  | [] => true
  | x :: xs => rwf x && rwfList xs
def rwfPairs : List (RVal × RVal) → Bool
  | [] => true
  | (k, v) :: r => rwf k && rwf v && rwfPairs r
def rwfFields : List (Bytes × Bool × Option Bytes × RVal) → Bool
  | [] => true
  | (_, exported, _, v) :: r => (!exported || rwf v) && rwfFields r
end

mutual
/-- **C15 (total).** For every value of every generated type — channels, funcs, complex numbers, byte
    arrays held by value, nil pointers and interfaces, pointer chains, structs with unexported,
    embedded or tagged fields, maps with any key type — the encoder returns: it never panics. -/
theorem C15_total (ip : IsPrint) (c : ECfg) : ∀ v : RVal, rwf v = true → NoPanicOut (encR ip c v)
  | .val v => fun _ => enc_no_panic ip c v
  | .unsupported k => fun _ => .fail nofun
  | .invalid => fun _ => .emit _
  | .zero => nofun
  | .bytearr bs => fun _ => NoPanicOut.closed.byteArray _ _ _
  | .ptr v => C15_total ip c v
  | .seq xs => fun h => ite_out (.emit _) (.seq (.seq (.emit _) (C15_totalList ip c xs h)) (.emit _))
  | .tuple xs => fun h => NoPanicOut.closed.tupleOf _ _ (C15_totalList ip c xs h)
  | .map kvs => fun h => ite_out (.emit _) (.seq (.seq (.emit _) (C15_totalPairs ip c kvs h)) (.emit _))
  | .strct fs => fun h => .seq (.seq (.emit _) (C15_totalFields ip c _ fs h)) (.emit _)
theorem C15_totalList (ip : IsPrint) (c : ECfg) : ∀ xs : List RVal, rwfList xs = true → NoPanicOut (encRList ip c xs)
  | [], _ => .nil
  | x :: xs, h =>
    have h := (Bool.and_eq_true _ _).mp h
    .seq (C15_total ip c x h.1) (C15_totalList ip c xs h.2)
theorem C15_totalPairs (ip : IsPrint) (c : ECfg) : ∀ kvs : List (RVal × RVal), rwfPairs kvs = true → NoPanicOut (encRPairs ip c kvs)
  | [], _ => .nil
  | (k, v) :: r, h =>
    have h := (Bool.and_eq_true _ _).mp h
    have h1 := (Bool.and_eq_true _ _).mp h.1
    .seq (.seq (C15_total ip c k h1.1) (C15_total ip c v h1.2)) (C15_totalPairs ip c r h.2)
theorem C15_totalFields (ip : IsPrint) (c : ECfg) (tagged : Bool) :
    ∀ fs : List (Bytes × Bool × Option Bytes × RVal), rwfFields fs = true → NoPanicOut (encRFields ip c tagged fs)
  | [], _ => .nil
  | (name, exported, tag, v) :: r, h => by
    have h := (Bool.and_eq_true _ _).mp h
    refine .seq ?_ (C15_totalFields ip c tagged r h.2)
    cases exported with
    | false => exact .nil
    | true =>
      have hv : ∀ t, NoPanicOut (encodeString ip c t +> encR ip c v) := fun _ => .seq (NoPanicOut.closed.string _ _ _) (C15_total ip c v h.1)
      refine ite_out .nil (ite_out ?_ (hv _))
      cases tag with
      | none => exact .nil
      | some t => exact hv t
end

/-- **C15 (kind).** A value of an unsupported kind is answered with a `*TypeError` naming that kind. -/
theorem C15_kind (ip : IsPrint) (c : ECfg) (k : String) : encR ip c (.unsupported k) = ⟨[], some (.typeError k)⟩ := by
  simp [encR, failWith]

/-- A nil pointer or nil interface encodes as None; a byte array by value as a bytearray. -/
theorem C15_nil_and_arrays (ip : IsPrint) (c : ECfg) (bs : Bytes) :
    encR ip c .invalid = emit [78] ∧ encR ip c (.bytearr bs) = encodeByteArray ip c bs := by
  simp [encR]

end Ogorek
