import Ogorek.Props.C02Py2
import Ogorek.Props.C06Pk
import Ogorek.Props.C06

/-!
  C06 on what Python 2's picklers write for a str and for a unicode object (`py2StrPickle`, `py2UnicodePickle` of Props/C02Py2):
  the model of CPython's unpickler (which, like the oracle, keeps a Python-2 str as a value of its own: `.str2`) loads the same
  bytes, consumes all of them and returns that byte string, resp. that text — so both unpicklers accept these programs and
  return the same object.
-/
namespace Ogorek

section
variable {c : ECfg}

theorem pruns_put_any (p n : Nat) (hp : p ≤ 3) (hn : n < 2 ^ 32) :
    PRunsP c (cpPut p n) (fun st => ∃ r rest, st.stack = r :: rest) (fun st st' => st'.stack = st.stack) := by
  have h4 : ¬ p ≥ 4 := by omega
  obtain ⟨k, hpar, hk⟩ := parses_cpPut p n
  cases hk hn
  rw [if_neg h4] at hpar
  refine PRunsP.one hpar ?_
  intro st _ ⟨v, s, hs⟩
  have hexec := pexec_cpPut p hn (fun h => absurd h h4) hs
  rw [if_neg h4] at hexec
  exact ⟨pmemoPut st n v, hexec, rfl, rfl⟩

theorem pruns_optPut (p : Nat) (hp : p ≤ 3) (put : Option Nat) (hput : ∀ n, put = some n → n < 2 ^ 32) :
    PRunsP c (optPut p put) (fun st => ∃ r rest, st.stack = r :: rest) (fun st st' => st'.stack = st.stack) := by
  cases put with
  | none => exact PRunsP.nil fun _ _ => rfl
  | some n => exact pruns_put_any p n hp (hput n rfl)

end

theorem py2_leaf_pvm_core (p : Nat) (hp : p ≤ 2) (lb pb : Bytes) (v : PyVal)
    (hstr : PRunsP (ecfg p) lb (fun _ => True) (fun st st' => st'.stack = v :: st.stack))
    (hputr : PRunsP (ecfg p) pb (fun st => ∃ r rest, st.stack = r :: rest) (fun st st' => st'.stack = st.stack)) :
    ∃ st', pvmLoad ((if p ≥ 2 then [0x80, UInt8.ofNat p] else []) ++ (lb ++ pb) ++ [46]) = (.ok v, st', []) := by
  obtain ⟨is, hpar, hnofr, hrun⟩ := PRunsP.seq hstr hputr (fun st st1 _ _ e => ⟨v, st.stack, e⟩)
  obtain ⟨st2, e2, _, stm, _, hq1, hq2⟩ := hrun _ (pprotoOK_start _ p false rfl) trivial
  have hs2 : st2.stack = [v] := hq2.trans hq1
  have hload := pvmLoad_run p (by omega) false (lb ++ pb) is hpar hnofr st2 v e2 hs2 nofun
  exact ⟨_, by simpa using hload⟩

/-- **C06 (Python 2's str, the Python side).**  For every content below 4 GiB, each protocol 0-2, with or without a memo
    PUT (its index below 2^32): the model of CPython's unpickler loads `py2StrPickle p put s`, consumes it all and returns
    the Python-2 str `s`. -/
theorem C06_py2_str_pvm (p : Nat) (hp : p ≤ 2) (put : Option Nat) (hput : ∀ n, put = some n → n < 2 ^ 32) (s : Bytes)
    (hlen : s.length < 2 ^ 32) :
    ∃ st', pvmLoad (py2StrPickle p put s) = (.ok (.str2 s), st', []) := by
  have hstr : PRunsP (ecfg p) (py2StrBody p s) (fun _ => True) (fun st st' => st'.stack = PyVal.str2 s :: st.stack) :=
    PRunsP.one (parses_py2StrBody p s hlen) fun st _ _ => ⟨ppush st (.str2 s), by simp [pexec], rfl, rfl⟩
  exact py2_leaf_pvm_core p hp _ (optPut p put) _ hstr (pruns_optPut p (by omega) put hput)

/-- **C06 (Python 2's str): both unpicklers** accept what Python 2 writes for a str, consume all of it and return the same
    byte string (a `ByteString` / Go string there, a Python-2 str here). -/
theorem C06_py2_str_agree (cfg : Cfg) (hook : Hook) (p : Nat) (hp : p ≤ 2) (put : Option Nat) (hput : ∀ n, put = some n → n < 2 ^ 32)
    (s : Bytes) (hlen : s.length < 2 ^ 32) (st0 : DState) :
    (∃ st', decode (goCfg cfg) hook st0 (py2StrPickle p put s) = (.ok (if cfg.su then .bytestr s else .str s), st', [])) ∧
    (∃ st', pvmLoad (py2StrPickle p put s) = (.ok (.str2 s), st', [])) :=
  ⟨C02_py2_str cfg hook p hp put s hlen st0, C06_py2_str_pvm p hp put hput s hlen⟩

/-- **C06 (Python 2's unicode, the Python side)**: valid UTF-8 text (CPython refuses anything else). -/
theorem C06_py2_unicode_pvm (p : Nat) (hp : p ≤ 2) (put : Option Nat) (hput : ∀ n, put = some n → n < 2 ^ 32) (s bs : Bytes)
    (hlen : s.length < 2 ^ 32) (hu : pyUtf8Valid true s = true) (h : py2UnicodePickle p put s = some bs) :
    ∃ st', pvmLoad bs = (.ok (.str s), st', []) := by
  obtain ⟨tb, htb, rfl⟩ := Option.map_eq_some_iff.mp h
  have htext : PRunsP (ecfg p) tb (fun _ => True) (fun st st' => st'.stack = PyVal.str s :: st.stack) :=
    PRunsP.one (parses_py2Unicode p s tb hlen htb) fun st _ _ =>
      ⟨ppush st (.str s), by simp [pexec, pyStr, hu, bind, Except.bind, pure, Except.pure], rfl, rfl⟩
  exact py2_leaf_pvm_core p hp _ (optPut p put) _ htext (pruns_optPut p (by omega) put hput)

/-- **C06 (Python 2's unicode): both unpicklers** accept what Python 2 writes for a unicode object whose text is valid
    UTF-8 and below 4 GiB, consume all of it and return the same text (a Go string there, a `str` here). -/
theorem C06_py2_unicode_agree (cfg : Cfg) (hook : Hook) (p : Nat) (hp : p ≤ 2) (put : Option Nat) (hput : ∀ n, put = some n → n < 2 ^ 32)
    (s bs : Bytes) (hlen : s.length < 2 ^ 32) (hu : pyUtf8Valid true s = true) (h : py2UnicodePickle p put s = some bs) (st0 : DState) :
    (∃ st', decode (goCfg cfg) hook st0 bs = (.ok (.str s), st', [])) ∧ (∃ st', pvmLoad bs = (.ok (.str s), st', [])) :=
  ⟨C02_py2_unicode cfg hook p hp put s bs hlen h st0, C06_py2_unicode_pvm p hp put hput s bs hlen hu h⟩

end Ogorek
