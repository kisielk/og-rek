import Ogorek.Props.C06Dec
import Ogorek.Props.C03N
import Ogorek.Props.C05
import Ogorek.Props.C01Pvm
import Ogorek.Props.C18RT
import Ogorek.Props.C03R

/-!
  The protocol-0 float-text hypothesis of the encoder-side theorems (`FloatsOK`: `ParseFloat` reads `%g` back), evaluated:
  `floatsOKb c fs` runs the model's `%g` and float parser on every float of the value.  The theorems of C03 / C01 / C05 / C18
  restated with that Boolean, so that the cases of the correspondence runs — protocol 0 included — are instances of them.
-/
namespace Ogorek

def floatsOKb (c : ECfg) (fs : List F64) : Bool := fs.all fun f => decide (c.proto ≥ 1) || floatTextOKb f

theorem FloatsOK_of_b (c : ECfg) (fs : List F64) (h : floatsOKb c fs = true) : FloatsOK c fs := by
  intro f hf
  unfold floatsOKb at h
  rw [List.all_eq_true] at h
  have := h f hf
  simp only [Bool.or_eq_true, decide_eq_true_eq] at this
  exact this.imp id (floatTextOK_of_b f)

/-- **C03, every hypothesis evaluated** (`canon`, `floatsOKb`, the encoder's own error answer). -/
theorem C03_roundtrip_dec (ip : IsPrint) (hip : ip 10 = false) (c : ECfg) (cfg : Cfg) (v : GoVal)
    (hp0 : 0 ≤ c.proto) (hp5 : c.proto ≤ 5) (hsu : cfg.su = c.su)
    (hc : canon cfg true v = true) (hf : floatsOKb c (floatsOf v) = true) (he : (encodeTop ip c none v).err = none) (st0 : DState) :
    ∃ r st', decode (goCfg cfg) none st0 (flat (encodeTop ip c none v)) = (.ok r, st', []) ∧
      Rep (goCfg cfg) GoVal.ref st'.heap r v :=
  C03_roundtrip ip hip c cfg v hp0 hp5 hsu hc (FloatsOK_of_b c _ hf) he st0

theorem C03_normal_form_dec (ip : IsPrint) (hip : ip 10 = false) (c : ECfg) (cfg : Cfg) (v : GoVal)
    (hp0 : 0 ≤ c.proto) (hp5 : c.proto ≤ 5) (hsu : cfg.su = c.su)
    (hc : canon cfg true (norm v) = true) (hf : floatsOKb c (floatsOf v) = true) (he : (encodeTop ip c none v).err = none) (st0 : DState) :
    ∃ r st', decode (goCfg cfg) none st0 (flat (encodeTop ip c none v)) = (.ok r, st', []) ∧
      Rep (goCfg cfg) GoVal.ref st'.heap r (norm v) :=
  C03_normal_form ip hip c cfg v hp0 hp5 hsu hc (FloatsOK_of_b c _ hf) he st0

/-- **C01, every hypothesis evaluated** (`pyWF`, `floatsOKb`, the encoder's own error answer). -/
theorem C01_pvm_table_dec (ip : IsPrint) (hip : ip 10 = false) (c : ECfg) (v : GoVal)
    (hp0 : 0 ≤ c.proto) (hp5 : c.proto ≤ 5)
    (hw : pyWF c v = true) (hf : floatsOKb c (floatsOf v) = true) (he : (encodeTop ip c none v).err = none) :
    ∃ r st, pvmLoad (flat (encodeTop ip c none v)) = (.ok r, st, []) ∧ PRep st.heap r (tableP c v) :=
  C01_pvm_table ip hip c v hp0 hp5 hw (FloatsOK_of_b c _ hf) he

/-- **C05, every hypothesis evaluated** (`noCycle`, `shapeOK`, `floatsOKb` on the floats of the decoded value, the encoder's
    own error answer). -/
theorem C05_reencode_dec (ip : IsPrint) (hip : ip 10 = false) (cfg : Cfg) (inp : Bytes)
    (r : GoVal) (st' : DState) (rest : Bytes) (hdec : decode (goCfg cfg) none {} inp = (.ok r, st', rest)) (fuel : Nat)
    (hn : noCycle (resolveV st'.heap fuel r) = true) (hs : shapeOK cfg (resolveV st'.heap fuel r) = true)
    (c : ECfg) (hp0 : 0 ≤ c.proto) (hp5 : c.proto ≤ 5) (hsu : cfg.su = c.su)
    (hf : floatsOKb c (floatsOf (resolveV st'.heap fuel r)) = true)
    (he : (encodeTop ip c none (resolveV st'.heap fuel r)).err = none) (st1 : DState) :
    ∃ r2 st2, decode (goCfg cfg) none st1 (flat (encodeTop ip c none (resolveV st'.heap fuel r))) = (.ok r2, st2, []) ∧
      Rep (goCfg cfg) GoVal.ref st2.heap r2 (resolveV st'.heap fuel r) :=
  C05_reencode ip hip cfg inp r st' rest hdec fuel hn hs c hp0 hp5 hsu (FloatsOK_of_b c _ hf) he st1

/-- **C18 (round trip under hooks), every hypothesis about the value evaluated.** -/
theorem C03_roundtrip_hook_dec (ip : IsPrint) (hip : ip 10 = false) (c : ECfg) (cfg : Cfg) (hook : Hook) (ρ : GoVal → GoVal)
    (hh : HookFor hook ρ) (v : GoVal)
    (hp0 : 0 ≤ c.proto) (hp5 : c.proto ≤ 5) (hsu : cfg.su = c.su)
    (hc : canon cfg false v = true) (hf : floatsOKb c (floatsOf v) = true) (he : (encodeTop ip c none v).err = none) (st0 : DState) :
    ∃ r st', decode (goCfg cfg) hook st0 (flat (encodeTop ip c none v)) = (.ok r, st', []) ∧
      Rep (goCfg cfg) ρ st'.heap r v :=
  C03_roundtrip_hook ip hip c cfg hook ρ hh v hp0 hp5 hsu hc (FloatsOK_of_b c _ hf) he st0

/-- Non-vacuity at protocol 0: the `%g` text of these floats is read back. -/
example : floatsOKb { proto := 0, su := false } (floatsOf (.list [.float 0x3ff8000000000000, .float 0x3fb999999999999a,
    .dict [(.float 0x7fefffffffffffff, .float 0x0000000000000001)], .tuple [.float 0xc05edd3c07ee0b0b, .float 0x4415af1d78b58c40,
    .float 0x7ff0000000000000, .float 0x8000000000000000]])) = true := by
  decide +kernel

end Ogorek
