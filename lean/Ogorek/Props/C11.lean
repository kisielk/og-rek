import Ogorek.Props.C04
import Ogorek.Lemmas.Loop

/-!
  C11 — A stream of pickles decodes one value per call, each as if it stood alone.
-/
namespace Ogorek

/-- **C11 (reset).** A `Decode` call depends on what earlier calls left behind only through the memo, the heap of
    containers, the id supply and the hook log — never through operands or a MARK left on the stack, nor the
    announced protocol (repair F5). -/
theorem C11_reset (mc : MCfg) (hook : Hook) (st1 st2 : DState) (inp : Bytes)
    (hm : st1.memo = st2.memo) (hh : st1.heap = st2.heap) (hn : st1.nbig = st2.nbig)
    (hc : st1.calls = st2.calls) : decode mc hook st1 inp = decode mc hook st2 inp := by
  unfold decode
  have : ({ st1 with stack := [], proto := 0 } : DState) = { st2 with stack := [], proto := 0 } := by
    cases st1; cases st2; simp_all
  rw [this]

theorem decodeLoop_append (mc : MCfg) (hook : Hook) (t : Bytes) :
    ∀ (fuel fuel' insn : Nat) (st : DState) (inp : Bytes) (v : GoVal) (st' : DState) (rest : Bytes),
      fuel ≤ fuel' → decodeLoop mc hook fuel insn st inp = (.ok v, st', rest) →
      decodeLoop mc hook fuel' insn st (inp ++ t) = (.ok v, st', rest ++ t) := by
  intro fuel
  induction fuel with
  | zero => intro fuel' insn st inp v st' rest _ h; simp [decodeLoop] at h
  | succ fuel ih =>
    intro fuel' insn st inp v st' rest hle h
    obtain ⟨fuel', rfl⟩ : ∃ f, fuel' = f + 1 := ⟨fuel' - 1, by omega⟩
    obtain ⟨key, r, i, rest1, rfl, hp, hcase⟩ := decodeLoop_ok_inv h
    obtain ⟨u, hu, loc, _⟩ := good_parseArg key r i rest1 hp
    have hp' : parseArg key (r ++ t) = .ok (i, rest1 ++ t) := by
      rw [hu, List.append_assoc]; exact loc _
    rcases hcase with ⟨rfl, hpop, rfl⟩ | ⟨hs, st1, he, hrest⟩
    · rw [List.cons_append, decodeLoop_cons_stop hp', hpop]
    · rw [List.cons_append, decodeLoop_step mc hook fuel' insn st st1 key _ _ i hp' hs he]
      exact ih fuel' _ _ _ _ _ _ (by omega) hrest

/-- **C11 (consumes).** A successful call consumes exactly through its STOP: whatever follows the pickle is handed
    back untouched and does not influence the result. -/
theorem C11_consumes (mc : MCfg) (hook : Hook) (st : DState) (p t : Bytes) (v : GoVal) (st' : DState)
    (h : decode mc hook st p = (.ok v, st', [])) :
    decode mc hook st (p ++ t) = (.ok v, st', t) := by
  unfold decode at h ⊢
  exact decodeLoop_append mc hook t _ _ _ _ _ _ _ _ (by simp) h

/-- Stream decoding: call `Decode` up to `n` times, stopping at the first error. -/
def decodeStream (mc : MCfg) (hook : Hook) : Nat → DState → Bytes → List (M GoVal)
  | 0, _, _ => []
  | n + 1, st, inp =>
    match decode mc hook st inp with
    | (.ok v, st', rest) => .ok v :: decodeStream mc hook n st' rest
    | (.error e, _, _) => [.error e]

/-- **C11 (stream).** If `p` alone decodes to `v` (consuming all of `p`), then on `p ++ rest`
    the first call returns `v` and the following calls see exactly `rest` and the state `p` left. -/
theorem C11_stream (mc : MCfg) (hook : Hook) (n : Nat) (st : DState) (p rest : Bytes) (v : GoVal) (st' : DState)
    (h : decode mc hook st p = (.ok v, st', [])) :
    decodeStream mc hook (n + 1) st (p ++ rest) = .ok v :: decodeStream mc hook n st' rest := by
  simp only [decodeStream, C11_consumes mc hook st p rest v st' h]

/-- After the last pickle: `io.EOF`. -/
theorem C11_then_eof (mc : MCfg) (hook : Hook) (n : Nat) (st : DState) :
    decodeStream mc hook (n + 1) st [] = [.error .eof] := by
  rw [decodeStream, decode, decodeLoop_nil]
  rfl

end Ogorek
