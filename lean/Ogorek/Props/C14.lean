import Ogorek.Chunked
import Ogorek.Lemmas.Reader

/-!
  C14 — Decoding does not depend on how the Reader delivers the bytes.

  Each primitive, under every delivery schedule, equals the flat-input reader the decoder model
  is built from; `decode` uses nothing else to touch its input (`parseInsn` is `readByte` followed
  by `parseArg`, which is built from `readByte`, `readFull`, `copyN`, `readLine` by the pure
  combinators of `Rd`).
-/
namespace Ogorek

/-- **C14 (ReadByte).** Whatever has been buffered, the next byte is the next byte of the stream
    (the model's state *is* the remaining stream). -/
theorem C14_readByte (inp : Bytes) :
    readByte inp = (match inp with | [] => .error .eof | b :: r => .ok (b, r)) := by
  cases inp <;> rfl

theorem readNChunked_spec (sizes : Nat → Nat) (eofErr : DErr) :
    ∀ (need i fuel : Nat) (acc inp : Bytes), need < fuel →
      readNChunked sizes eofErr need i fuel acc inp =
        if need ≤ inp.length then .ok (acc ++ inp.take need, inp.drop need)
        else .error (if acc.isEmpty && inp.isEmpty then .eof else eofErr) := by
  intro need
  induction need using Nat.strongRecOn with
  | _ need ih =>
    intro i fuel acc inp hf
    cases need with
    | zero => simp [readNChunked]
    | succ need =>
      cases fuel with
      | zero => omega
      | succ fuel =>
        unfold readNChunked
        by_cases hemp : inp.isEmpty = true
        · have : inp = [] := List.isEmpty_iff.mp hemp
          subst this
          simp
        · have hlen : 0 < inp.length := by
            cases inp with
            | nil => simp at hemp
            | cons _ _ => simp
          simp only [hemp, Bool.and_false]
          have hc1 : 1 ≤ min (sizes i + 1) (min (need + 1) inp.length) :=
            Nat.le_min.mpr ⟨Nat.le_add_left 1 _, Nat.le_min.mpr ⟨Nat.le_add_left 1 _, hlen⟩⟩
          have hc2 : min (sizes i + 1) (min (need + 1) inp.length) ≤ need + 1 :=
            Nat.le_trans (Nat.min_le_right _ _) (Nat.min_le_left _ _)
          have hc3 : min (sizes i + 1) (min (need + 1) inp.length) ≤ inp.length :=
            Nat.le_trans (Nat.min_le_right _ _) (Nat.min_le_right _ _)
          generalize min (sizes i + 1) (min (need + 1) inp.length) = c at hc1 hc2 hc3
          have hlt : need + 1 - c < need + 1 := Nat.sub_lt (Nat.succ_pos _) hc1
          rw [ih (need + 1 - c) hlt _ _ _ _ (Nat.lt_of_lt_of_le hlt (Nat.le_of_lt_succ hf))]
          have hne : (acc ++ List.take c inp).isEmpty = false := by
            obtain ⟨b, r, hbr⟩ : ∃ b r, inp = b :: r := by
              cases inp with
              | nil => simp at hlen
              | cons b r => exact ⟨b, r, rfl⟩
            obtain ⟨c', hc'⟩ : ∃ c', c = c' + 1 := ⟨c - 1, (Nat.sub_add_cancel hc1).symm⟩
            rw [hbr, hc']
            simp
          simp only [List.length_drop, hne, Bool.false_and]
          by_cases hle : need + 1 ≤ inp.length
          · have h1 : need + 1 - c ≤ inp.length - c := Nat.sub_le_sub_right hle c
            simp only [h1, hle, if_true, List.append_assoc, List.drop_drop]
            have e2 : c + (need + 1 - c) = need + 1 := Nat.add_sub_of_le hc2
            have e1 : List.take c inp ++ List.take (need + 1 - c) (List.drop c inp) = List.take (need + 1) inp := by
              have := List.take_add (l := inp) (i := c) (j := need + 1 - c)
              rw [e2] at this
              exact this.symm
            rw [e1, e2]
            simp
          · have h1 : ¬ need + 1 - c ≤ inp.length - c := mt (Nat.sub_le_sub_iff_right hc3).mp hle
            simp only [h1, hle, if_false]
            simp

/-- **C14 (io.ReadFull).** -/
theorem C14_readFull (sizes : Nat → Nat) (n : Nat) (inp : Bytes) :
    readNChunked sizes .unexpectedEOF n 0 (n + 1) [] inp = readFull n inp := by
  rw [readNChunked_spec _ _ _ _ _ _ _ (Nat.lt_succ_self n), readFull, List.nil_append, List.isEmpty_nil, Bool.true_and,
    apply_ite Except.error]

/-- **C14 (io.CopyN and the byte-wise loops).** -/
theorem C14_copyN (sizes : Nat → Nat) (n : Nat) (inp : Bytes) :
    readNChunked sizes .eof n 0 (n + 1) [] inp = copyN n inp := by
  rw [readNChunked_spec _ _ _ _ _ _ _ (Nat.lt_succ_self n), copyN, List.nil_append, ite_self]

theorem splitLine_append (a b : Bytes) : splitLine (a ++ b) =
    match splitLine a with
    | some (l, r) => some (l, r ++ b)
    | none => (splitLine b).map fun p => (a ++ p.1, p.2) := by
  induction a with
  | nil => rw [List.nil_append]; cases splitLine b <;> rfl
  | cons x xs ih =>
    by_cases hx : x = 10
    · simp [splitLine, hx]
    · simp only [List.cons_append, splitLine, hx, if_false, ih]
      cases splitLine xs with
      | some p => rfl
      | none => cases splitLine b <;> rfl

theorem readLineChunked_spec (windows : Nat → Nat) :
    ∀ (fuel i : Nat) (acc inp : Bytes), inp.length < fuel →
      readLineChunked windows fuel i acc inp =
        (match splitLine inp with
         | some (l, r) => .ok (acc ++ l, r)
         | none => .error .eof)
  | 0, _, _, _, h => absurd h (Nat.not_lt_zero _)
  | fuel + 1, i, acc, inp, hlen => by
    have hsplit := splitLine_append (inp.take (windows i + 1)) (inp.drop (windows i + 1))
    rw [List.take_append_drop] at hsplit
    rw [readLineChunked, hsplit]
    cases hs : splitLine (List.take (windows i + 1) inp) with
    | some p =>
      have hdrop : inp.drop (p.1.length + 1) = p.2 ++ inp.drop (windows i + 1) := by
        conv => lhs; rw [← List.take_append_drop (windows i + 1) inp, (splitLine_some hs).1]
        simp
      simp only [hdrop]
    | none =>
      simp only
      by_cases hw : windows i + 1 < inp.length
      · rw [if_pos hw, readLineChunked_spec windows fuel _ _ _ (by simp [List.length_drop]; omega)]
        cases splitLine (inp.drop (windows i + 1)) with
        | none => rfl
        | some p => simp
      · rw [if_neg hw, List.drop_of_length_le (Nat.le_of_not_lt hw)]
        rfl

/-- **C14 (readLine).** og-rek's `ReadSlice` loop, for every sequence of window sizes (lines
    shorter or longer than the buffer, the LF arriving in any window), is the flat `readLine`. -/
theorem C14_readLine (windows : Nat → Nat) (inp : Bytes) :
    readLineChunked windows (inp.length + 1) 0 [] inp = readLine inp := by
  rw [readLineChunked_spec _ _ _ _ _ (by omega)]
  unfold readLine
  cases splitLine inp with
  | none => rfl
  | some p => obtain ⟨l, r⟩ := p; simp

end Ogorek
