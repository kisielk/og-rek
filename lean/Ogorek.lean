import Ogorek.Basic
import Ogorek.Utf8
import Ogorek.Quote
import Ogorek.Float
import Ogorek.Value
import Ogorek.Dict
import Ogorek.Decoder
import Ogorek.Encoder
import Ogorek.Conv
import Ogorek.Chunked
import Ogorek.WF
import Ogorek.Generated.IsPrint
import Ogorek.Generated.Facts
import Ogorek.Driver
import Ogorek.Lemmas.Loop
import Ogorek.Lemmas.EncClosed
import Ogorek.Lemmas.Step
import Ogorek.Lemmas.Reader
import Ogorek.Lemmas.NoPanic
import Ogorek.Lemmas.Num
import Ogorek.Lemmas.Keys
import Ogorek.Lemmas.WFLemmas
import Ogorek.Props.C04
import Ogorek.Props.C10
import Ogorek.Props.C11
import Ogorek.Props.C14
import Ogorek.Props.C16
import Ogorek.Props.C17
import Ogorek.Props.C18
import Ogorek.Props.C19
import Ogorek.Opcodes
import Ogorek.Props.C03
import Ogorek.Props.C05
import Ogorek.Props.C12
import Ogorek.Props.C13
import Ogorek.Props.C07
import Ogorek.Props.C08
import Ogorek.Props.C08F
import Ogorek.Props.C07R
import Ogorek.Props.C07T
import Ogorek.Props.C08S
import Ogorek.Lemmas.Latin1
import Ogorek.Props.C01
import Ogorek.Props.C02
import Ogorek.Props.C06
import Ogorek.Props.C09
import Ogorek.Props.C20
import Ogorek.Props.C15
import Ogorek.Props.C11Enc
import Ogorek.Props.C18RT
import Ogorek.Props.C01Pvm
import Ogorek.Props.C09Py
import Ogorek.Props.C03N
import Ogorek.Props.C11Reloc
import Ogorek.Props.C03R
import Ogorek.Props.C02Pk
import Ogorek.Lemmas.CPickleOut
import Ogorek.Props.C06Pk
import Ogorek.Props.C19U
import Ogorek.Props.C06Dec
import Ogorek.Props.C03Dec
import Ogorek.Lemmas.Py2RueInv
import Ogorek.Props.C02Py2
import Ogorek.Props.C06Py2
